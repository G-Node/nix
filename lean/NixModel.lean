import NixModel.Gen.Tables
import NixModel.Proto
import NixModel.Version
import NixModel.Spec.C10
import NixModel.Props.C10
import NixModel.Drive.Common
import NixModel.Drive.Version
import NixModel.Scalar
import NixModel.Index
import NixModel.Spec.C07
import NixModel.Drive.State
import NixModel.Drive.Index
import NixModel.Props.C07
import NixModel.Units
import NixModel.Spec.C18
import NixModel.Drive.Units
import NixModel.Props.C18
import NixModel.Err
import NixModel.Region
import NixModel.Spec.C05
import NixModel.Drive.Region
import NixModel.NDArray
import NixModel.Drive.Array
import NixModel.Spec.C01
import NixModel.Props.C01
import NixModel.Props.C01Whole
import NixModel.Gen.Types
import NixModel.Props.C01Types
import NixModel.Chunking
import NixModel.Props.C16Chunk
import NixModel.Gen.Catches
import NixModel.Props.C09Catches
import NixModel.Props.C04ByEntity
import NixModel.Props.C02Containers
import NixModel.Props.C02Fields
import NixModel.Props.C13Enums
import NixModel.Props.C08Guards
import NixModel.Props.C13UnitChecks
import NixModel.Proofs.RegionDim
import NixModel.Props.C05
import NixModel.Props.C06
import NixModel.Props.C17
import NixModel.Dump
import NixModel.Drive.Store
import NixModel.Store
import NixModel.Entities
import NixModel.Step
import NixModel.Observe
import NixModel.Drive.StoreModel
import NixModel.Proofs.StoreFrames
import NixModel.Proofs.AssocList
import NixModel.Proofs.StoreBasics
import NixModel.Proofs.Lookup
import NixModel.Proofs.OpShapes
import NixModel.Proofs.Footprint
import NixModel.Proofs.OpWrites
import NixModel.Proofs.SysInv
import NixModel.Proofs.SysHistory
import NixModel.Proofs.Roles
import NixModel.Proofs.RolesHistory
import NixModel.Proofs.DeleteFuel
import NixModel.Props.C02
import NixModel.Props.C03
import NixModel.Proofs.Unlinks
import NixModel.Props.C04
import NixModel.Props.C08
import NixModel.Props.C16
import NixModel.Props.C12Ids
import NixModel.OpenMode
import NixModel.Spec.C09
import NixModel.Props.C09
import NixModel.Drive.FileState
import NixModel.Drive.Modes
import NixModel.Session
import NixModel.Spec.C11
import NixModel.Props.C11
import NixModel.Drive.Crash
import NixModel.Ids
import NixModel.Props.C12
import NixModel.Drive.Ids
import NixModel.Property
import NixModel.Spec.C14
import NixModel.Drive.Props
import NixModel.Proofs.PropsLemmas
import NixModel.Props.C14
import NixModel.DataFrame
import NixModel.Spec.C15
import NixModel.Drive.Frame
import NixModel.Props.C15
import NixModel.Search
import NixModel.Spec.C20
import NixModel.Proofs.SearchBfs
import NixModel.Proofs.SearchLinks
import NixModel.Props.C20
import NixModel.Drive.Search
import NixModel.Validate
import NixModel.Spec.C19
import NixModel.Drive.Valid
import NixModel.Gen.ValidRules
import NixModel.ValidSource
import NixModel.Props.C19Source
import NixModel.Proofs.ValidateLemmas
import NixModel.Proofs.ValidateEntities
import NixModel.Props.C19
import NixModel.Props.C03Inv
import NixModel.Props.C03Schema
import NixModel.Proofs.IdUniq
import NixModel.Props.C03Ids
import NixModel.Props.C08Schema
import NixModel.Props.C08Bulk
import NixModel.DimDesc
import NixModel.Spec.C13
import NixModel.Proofs.DimDescLemmas
import NixModel.Proofs.DimDescRefine
import NixModel.Proofs.DimDescInv
import NixModel.Props.C13
import NixModel.Drive.DimDescSt
import NixModel.Drive.DimDesc
import NixModel.Props.C08Full
import NixModel.SizeVec
import NixModel.Props.C16Sizes
import NixModel.Props.C16Typed
