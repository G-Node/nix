import NixModel.Proofs.IndexRange
import NixModel.Proofs.IndexSampled
import NixModel.Proofs.IndexCount
/-
  C07 — position→index conversion obeys the documented matching rules.
  The cut of an axis, from which the theorems all follow, and the three kernels are in Proofs/Index*.lean.

  Every theorem is generic in the scalar type `α` and uses only: `<`/`≤` form a linear order,
  `==` decides equality (and for set/data-frame axes `LawfulRounding`).  Nothing is assumed about
  `+ - * /`, so the statements hold whatever floating-point rounding does to the computed
  quotient or to `i*interval + offset`; what *is* needed of the coordinates is stated as the
  hypothesis that they are strictly increasing.
-/
open Std
namespace Nix.C07
open Nix Scalar

section
variable {α : Type} [Scalar α]

theorem pairOf_spec_at (a : Axis α) (kernel : α → PositionMatch → Option Nat) (s e : α) (rm : RangeMatch)
    (h1 : IsIndex a .greaterOrEqual s (kernel s .greaterOrEqual)) (h2 : IsIndex a rm.endMatch e (kernel e rm.endMatch)) :
    IsPair a rm s e (pairOf kernel s e rm) := by
  unfold pairOf
  by_cases hes : e < s
  · rw [if_pos hes]; exact .inl hes
  rw [if_neg hes]
  cases hs : kernel s .greaterOrEqual with
  | none => exact .inr (.inl (hs ▸ h1))
  | some si =>
    cases he : kernel e rm.endMatch with
    | none => exact .inr (.inr (.inl (he ▸ h2)))
    | some ei =>
      rw [hs] at h1; rw [he] at h2
      dsimp only
      split
      · exact ⟨hes, h1, h2, ‹_›⟩
      · exact .inr (.inr (.inr ⟨si, ei, h1, h2, by omega⟩))

theorem rangePair_eq_pairOf (ticks : List α) (s e : α) (rm : RangeMatch) :
    rangePair ticks s e rm = pairOf (fun p m => getIndex p ticks m) s e rm := by
  unfold rangePair pairOf
  split
  · rfl
  · simp only []
    cases getIndex s ticks .greaterOrEqual <;> cases getIndex e ticks rm.endMatch <;> rfl

end

variable {α : Type} [Scalar α] [IsLinearOrder α] [LawfulOrderLT α] [LawfulScalarEq α]

/-- range dimension: all five rules, every strictly ascending tick list, every position -/
theorem range_index_spec (ticks : List α) (hs : Sorted ticks) (p : α) (m : PositionMatch) :
    IsIndex (rangeAxis ticks) m p (getIndex p ticks m) := by
  obtain ⟨k', c', h⟩ := getIndex_ofCuts p ticks hs m
  rw [h]; exact Axis.ofCuts_spec (rangeAxis_strictMono ticks hs) (lowerBound_isCut p ticks) c' m

/-- sampled dimension: for every interval/offset whose coordinates `i*interval+offset` are strictly
    increasing, every position below coordinate number `fuel` whose rounded quotient is below 2^53 (the library answers `none`
    beyond: fix df344c6), and *any* value of that quotient -/
theorem sampled_index_spec (fuel : Nat) (p off si : α) (m : PositionMatch)
    (hx : StrictMonoN (posAt si off)) (hx0 : posAt si off 0 = off)
    (hsi : zero < si) (hfp : isFinite p = true) (hfo : isFinite off = true)
    (hfuel : p < posAt si off fuel) (hq : floor (div (sub p off) si) < ofNat 9007199254740992) :
    IsIndex (sampledAxis si off) m p (getSampledIndex fuel p off si m) := by
  obtain ⟨k, k', c, c', h⟩ := getSampledIndex_ofCuts fuel p off si m hx hx0 hsi hfp hfo hfuel hq
  rw [h]; exact Axis.ofCuts_spec (sampledAxis_strictMono si off hx) c c' m

/-- set and data-frame dimensions: integer coordinates clipped by the label / row count -/
theorem count_index_spec [LawfulRounding α] (p : α) (count : Nat) (m : PositionMatch) (hp : p < ofNat indexLimit) :
    IsIndex (countAxis count) m p (getCountIndex p count m) := by
  obtain ⟨k, k', c, c', h⟩ := rawCountIndex_ofCuts p m
  rw [getCountIndex_of_lt p count m hp, h]
  rcases Nat.eq_zero_or_pos count with h0 | hn
  · subst h0
    have : ∀ r, clipIndex 0 m r = r := fun r => by cases r <;> rfl
    rw [this]; exact Axis.ofCuts_spec (countAxis_strictMono 0) c c' m
  · rw [clipIndex_ofCuts count hn]
    exact Axis.ofCuts_spec (countAxis_strictMono count) (clip_isCut (closed_lt p) count hn c) (clip_isCut (closed_le p) count hn c') m

set_option linter.unusedSectionVars false in
/-- the rule designates at most one answer, so the kernels return *the* index of the rule -/
theorem index_unique (a : Axis α) (hm : a.StrictMono) (m : PositionMatch) (p : α) (r r' : Option Nat)
    (h : IsIndex a m p r) (h' : IsIndex a m p r') : r = r' := by
  cases m
  case equal =>
    cases r <;> cases r' <;> simp only [IsIndex] at h h' <;> try rfl
    · exact absurd h'.2 (h _ h'.1)
    · exact absurd h.2 (h' _ h.1)
    · rename_i i j
      -- two indices with the coordinate `p`: strictly increasing coordinates are distinct
      congr 1
      apply Nat.le_antisymm <;> apply Nat.le_of_not_lt <;> intro hlt
      · have := hm j i h.1 hlt; rw [h.2, h'.2] at this; exact Std.lt_irrefl this
      · have := hm i j h'.1 hlt; rw [h.2, h'.2] at this; exact Std.lt_irrefl this
  all_goals
    cases r <;> cases r' <;> simp only [IsIndex] at h h' <;> try rfl
    · exact absurd h'.2.1 (h _ h'.1)
    · exact absurd h.2.1 (h' _ h.1)
    · rename_i i j
      -- each is extremal among the indices the rule admits, the other among them
      have := h.2.2 j h'.1 h'.2.1
      have := h'.2.2 i h.1 h.2.1
      congr 1; omega

set_option linter.unusedSectionVars false in
/-- the coordinate of sample i converts back to i (i-1 for Less, i+1 for Greater) -/
theorem index_roundtrip (a : Axis α) (hm : a.StrictMono) (i : Nat) (hi : a.valid i) :
    IsIndex a .greaterOrEqual (a.coord i) (some i) ∧ IsIndex a .lessOrEqual (a.coord i) (some i) ∧
    IsIndex a .equal (a.coord i) (some i) ∧
    IsIndex a .less (a.coord i) (if i = 0 then none else some (i - 1)) ∧
    IsIndex a .greater (a.coord i) (if a.valid (i + 1) then some (i + 1) else none) := by
  -- at `coord i` the cuts are `i` and `i + 1`
  have c := Axis.IsCut.lt_at hm hi rfl
  have c' := Axis.IsCut.le_succ hm hi rfl
  refine ⟨by simpa [hi] using c.ge hm, c'.le hm, by simpa using c.eq hm c', ?_, c'.gt hm⟩
  cases i <;> simpa using c.lt hm

/-- … and therefore the sampled kernel maps `positionAt(i)` to `i`, `i`, `i`, `i-1`, `i+1` -/
theorem sampled_roundtrip (fuel : Nat) (off si : α) (i : Nat)
    (hx : StrictMonoN (posAt si off)) (hx0 : posAt si off 0 = off)
    (hsi : zero < si) (hfp : isFinite (posAt si off i) = true) (hfo : isFinite off = true) (hfuel : i < fuel)
    (hq : floor (div (sub (posAt si off i) off) si) < ofNat 9007199254740992) :
    getSampledIndex fuel (posAt si off i) off si .greaterOrEqual = some i ∧
    getSampledIndex fuel (posAt si off i) off si .lessOrEqual = some i ∧
    getSampledIndex fuel (posAt si off i) off si .equal = some i ∧
    getSampledIndex fuel (posAt si off i) off si .less = (if i = 0 then none else some (i - 1)) ∧
    getSampledIndex fuel (posAt si off i) off si .greater = some (i + 1) := by
  have hm := sampledAxis_strictMono si off hx
  have hv := sampledAxis_valid si off
  have hrt := index_roundtrip (sampledAxis si off) hm i (hv i)
  have hk := fun m => sampled_index_spec fuel (posAt si off i) off si m hx hx0 hsi hfp hfo (hx i fuel hfuel) hq
  have hu := fun m r r' => index_unique (sampledAxis si off) hm m (posAt si off i) r r'
  refine ⟨hu _ _ _ (hk _) hrt.1, hu _ _ _ (hk _) hrt.2.1, hu _ _ _ (hk _) hrt.2.2.1, hu _ _ _ (hk _) hrt.2.2.2.1, ?_⟩
  have := hrt.2.2.2.2
  rw [if_pos (hv (i + 1))] at this
  exact hu _ _ _ (hk _) this

/-- start/end pairs: (GreaterOrEqual(start), LessOrEqual|Less(end)), valid exactly when
    start ≤ end and the resulting pair is ordered — for each of the descriptor kinds -/
theorem range_pair_spec (ticks : List α) (hs : Sorted ticks) (s e : α) (rm : RangeMatch) :
    IsPair (rangeAxis ticks) rm s e (rangePair ticks s e rm) := by
  rw [rangePair_eq_pairOf]
  exact pairOf_spec_at _ _ s e rm (range_index_spec ticks hs s _) (range_index_spec ticks hs e _)

theorem count_pair_spec [LawfulRounding α] (count : Nat) (s e : α) (rm : RangeMatch)
    (hs : s < ofNat indexLimit) (he : e < ofNat indexLimit) :
    IsPair (countAxis count) rm s e (countPair count s e rm) :=
  pairOf_spec_at _ _ s e rm (count_index_spec s count .greaterOrEqual hs) (count_index_spec e count rm.endMatch he)

theorem sampled_pair_spec (fuel : Nat) (off si : α) (s e : α) (rm : RangeMatch)
    (hx : StrictMonoN (posAt si off)) (hx0 : posAt si off 0 = off)
    (hsi : zero < si) (hfs : isFinite s = true) (hfe : isFinite e = true) (hfo : isFinite off = true)
    (hs : s < posAt si off fuel) (he : e < posAt si off fuel)
    (hqs : floor (div (sub s off) si) < ofNat 9007199254740992) (hqe : floor (div (sub e off) si) < ofNat 9007199254740992) :
    IsPair (sampledAxis si off) rm s e (sampledPair fuel off si s e rm) :=
  pairOf_spec_at _ _ s e rm (sampled_index_spec fuel s off si .greaterOrEqual hx hx0 hsi hfs hfo hs hqs)
    (sampled_index_spec fuel e off si rm.endMatch hx hx0 hsi hfe hfo he hqe)

/-- the run-time evaluator used on the implementation's answers is sound for the rule -/
theorem rel_evaluator_sound (a : Axis α) (hm : a.StrictMono) (m : PositionMatch) (p : α) (r hint : Option Nat)
    (h : relIndex a m p r hint = true) : IsIndex a m p r := by
  -- the shapes of the local test: the cut is the index after the answer, index 0, the answer, or the length
  have after : ∀ {P Q : α → Prop} {i}, (∀ {x}, Q x → ¬ P x) → (a.valid i ∧ P (a.coord i)) ∧ (¬ a.valid (i + 1) ∨ Q (a.coord (i + 1))) →
      a.IsCut P (i + 1) := fun hq h => ⟨.inr h.1, fun hv => h.2.elim (absurd hv) hq⟩
  have zero : ∀ {P Q : α → Prop}, (∀ {x}, Q x → ¬ P x) → ¬ a.valid 0 ∨ Q (a.coord 0) → a.IsCut P 0 :=
    fun hq h => ⟨.inl rfl, fun hv => h.elim (absurd hv) hq⟩
  have at_ : ∀ {P Q : α → Prop} {i}, (∀ {x}, Q x → ¬ P x) → (a.valid i ∧ Q (a.coord i)) ∧ (i = 0 ∨ P (a.coord (i - 1))) →
      a.IsCut P i := fun hq h => ⟨h.2.imp_right fun hp => ⟨a.valid_of_le h.1.1 (Nat.sub_le _ 1), hp⟩, fun _ => hq h.1.2⟩
  have len : ∀ {P : α → Prop} {n}, a.len = some n → (n = 0 ∨ P (a.coord (n - 1))) → a.IsCut P n ∧ ¬ a.valid n := fun {P n} hl h => by
    have hv : ∀ j, a.valid j ↔ j < n := fun j => by simp [Axis.valid, hl]
    refine ⟨⟨?_, fun hn => absurd ((hv n).1 hn) (Nat.lt_irrefl n)⟩, fun hn => absurd ((hv n).1 hn) (Nat.lt_irrefl n)⟩
    rcases Nat.eq_zero_or_pos n with h0 | hpos
    · exact .inl h0
    · exact .inr ⟨(hv _).2 (by omega), h.resolve_left (by omega)⟩
  cases m <;> cases r <;> simp only [relIndex, Bool.and_eq_true, Bool.or_eq_true, decide_eq_true_eq,
    Bool.not_eq_true', decide_eq_false_iff_not, beq_iff_eq] at h
  case equal.some i => exact ⟨h.1, (LawfulScalarEq.beq_iff _ _).1 h.2⟩
  case equal.none =>
    -- each disjunct names an index that is the cut at `· < p` and at `· ≤ p` alike
    have none : ∀ {k}, a.IsCut (· < p) k → a.IsCut (· ≤ p) k → IsIndex a .equal p none := fun c c' => by simpa using c.eq hm c'
    have gt : ∀ {x : α}, p < x → ¬ x < p := fun hx => Std.not_lt.2 (Std.le_of_lt hx)
    rcases h with (h | h) | h
    · exact none (zero (Q := fun _ => False) False.elim (.inl h)) (zero (Q := fun _ => False) False.elim (.inl h))
    · exact none (zero gt (.inr h)) (zero Std.not_le.2 (.inr h))
    · cases hint with
      | none => cases h
      | some k =>
        simp only [Bool.and_eq_true, Bool.or_eq_true, decide_eq_true_eq, Bool.not_eq_true', decide_eq_false_iff_not] at h
        exact none (after gt h) (after Std.not_le.2 ⟨⟨h.1.1, Std.le_of_lt h.1.2⟩, h.2⟩)
  case less.some i => exact (after Std.not_lt.2 h).lt hm
  case less.none => exact (zero Std.not_lt.2 h).lt hm
  case lessOrEqual.some i => exact (after Std.not_le.2 h).le hm
  case lessOrEqual.none => exact (zero Std.not_le.2 h).le hm
  case greaterOrEqual.some i => simpa [h.1.1] using (at_ Std.not_lt.2 h).ge hm
  case greater.some i => simpa [h.1.1] using (at_ Std.not_le.2 h).gt hm
  case greaterOrEqual.none =>
    cases hl : a.len with
    | none => simp [hl] at h
    | some n =>
      have c := len (P := (· < p)) hl (by simpa [hl] using h)
      simpa [c.2] using c.1.ge hm
  case greater.none =>
    cases hl : a.len with
    | none => simp [hl] at h
    | some n =>
      have c := len (P := (· ≤ p)) hl (by simpa [hl] using h)
      simpa [c.2] using c.1.gt hm

instance : LawfulRounding Int where
  ofNat_zero := rfl
  ofNat_strictMono := by intro i j h; show (Int.ofNat i) < Int.ofNat j; simp only [Int.ofNat_eq_natCast]; omega
  toNat_ofNat := by intro k; simp [Scalar.toNat, Scalar.ofNat]
  floor_spec := by
    intro p hp
    simp only [Scalar.floor, Scalar.toNat, Scalar.ofNat, Scalar.zero, id, Int.ofNat_eq_natCast] at *
    refine ⟨?_, Int.le_refl _, ?_⟩ <;> omega
  ceil_neg := by intro p h; exact h
  ceil_spec := by
    intro p hp
    simp only [Scalar.ceil, Scalar.toNat, Scalar.ofNat, Scalar.zero, id, Int.ofNat_eq_natCast] at *
    refine ⟨?_, Int.le_refl _, ?_⟩
    · omega
    · intro h; omega
  round_spec := by
    intro p hp
    simp only [Scalar.round, Scalar.toNat, Scalar.ofNat, Scalar.zero, Scalar.beq, id, beq_self_eq_true, true_iff,
      forall_const, Int.ofNat_eq_natCast] at *
    refine ⟨⟨p.toNat, ?_⟩, ?_⟩ <;> omega

example : StrictMonoN (posAt (3 : Int) 1) := by
  intro i j h; simp only [posAt, Scalar.add, Scalar.mul, Scalar.ofNat, Int.ofNat_eq_natCast]; omega
example : posAt (3 : Int) 1 0 = 1 := by decide
example : getSampledIndex 100 (10 : Int) 1 3 .lessOrEqual = some 3 := by decide
example : getSampledIndex 100 (10 : Int) 1 3 .less = some 2 := by decide
example : getSampledIndex 100 (11 : Int) 1 3 .greaterOrEqual = some 4 := by decide
example : getSampledIndex 100 (11 : Int) 1 3 .equal = none := by decide
-- interval 1/10: on doubles, the case the pinned library got wrong (D7)
example : getSampledIndex 100 (3/10 : Rat) 0 (1/10) .greaterOrEqual = some 3 := by decide +kernel
example : Sorted ([1, 4, 6] : List Int) := by simp [Sorted]
example : getIndex (5 : Int) [1, 4, 6] .less = some 1 ∧ getIndex (4 : Int) [1, 4, 6] .greater = some 2 ∧
    getIndex (7 : Int) [1, 4, 6] .greaterOrEqual = none := by decide
example : getCountIndex (7 : Int) 3 .lessOrEqual = some 2 ∧ getCountIndex (2 : Int) 3 .greater = none ∧
    getCountIndex (2 : Int) 0 .greater = some 3 := by decide
example : rangePair ([1, 4, 6] : List Int) 2 6 .exclusive = some (1, 1) ∧
    rangePair ([1, 4, 6] : List Int) 2 6 .inclusive = some (1, 2) ∧ rangePair ([1, 4, 6] : List Int) 5 5 .exclusive = none := by decide

end Nix.C07
