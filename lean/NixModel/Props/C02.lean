import NixModel.Observe
import NixModel.Proofs.SysHistory
/-
  C02 — close and reopen preserves the complete entity tree.

  What the model says (and the correspondence run checks against the library on every history): nix keeps no write-back state —
  every getter of the dump reads the store (`observe` is a function of the store alone, by its type), closing a file writes
  nothing, and opening an existing valid file writes only what is missing from the root (the two root groups and the file's
  creation time), which an already opened file always has.  Hence the dump after close + reopen (either mode) is the dump
  before, and a history with reopen steps inside is the history without them.
  The part no theorem can carry — that HDF5 puts on disk what the live file showed — is the tie's: `dump; fdrop; fopen ro|rw;
  dump`, also from a freshly started reader process.
-/
namespace Nix.St
open Store

/-- FileHDF5 constructor on an existing file, after checkHeader: `root.openGroup("metadata")`, `root.openGroup("data")`
    (create = true), setCreatedAt (only when absent); `updated_at` is not observable through the dump -/
def reopenRW (s : Store) (now : String) : Store :=
  let s := (s.openGroupCreate 0 "metadata").1
  let s := (s.openGroupCreate 0 "data").1
  if s.hasAttr 0 "created_at" then s else s.setAttr 0 "created_at" now

/-- a read-only open cannot write: the attributes / groups above exist in every file nix has written -/
def reopenRO (s : Store) : Store := s

structure RootOK (s : Store) : Prop where
  metadata : s.hasGroup 0 "metadata" = true
  data : s.hasGroup 0 "data" = true
  created : s.hasAttr 0 "created_at" = true

theorem Sys.rootOK {s : Store} (h : Sys s) : RootOK s := by
  obtain ⟨ob, h0, _, hl, hc⟩ := h.root
  constructor
  · simp [hasGroup, child?, linksOf, h0, hl, metadataGrp, h.g1]
  · simp [hasGroup, child?, linksOf, h0, hl, List.lookup, metadataGrp, dataGrp, h.g2]
  · simp [hasAttr, attr?, h0, hc]

theorem newFile_rootOK (id created format version : String) : RootOK (newFile id created format version) :=
  (newFile_sys id created format version).rootOK

theorem reopenRW_id (s : Store) (now : String) (h : RootOK s) : reopenRW s now = s := by
  unfold reopenRW
  simp only [openGroupCreate_existing s 0 "metadata" h.metadata, openGroupCreate_existing s 0 "data" h.data, h.created, if_true]

/-- C02 for the model: the observable tree after close + reopen, in either mode, is the tree before -/
theorem reopen_observe_eq (s : Store) (now : String) (h : RootOK s) :
    observe (reopenRW s now) = observe s ∧ observe (reopenRO s) = observe s := by
  rw [reopenRW_id s now h]; exact ⟨rfl, rfl⟩

theorem reopen_then_continue (s : Store) (now : String) (h : RootOK s) (ops : List Op) :
    run (reopenRW s now) ops = run s ops ∧ run (reopenRO s) ops = run s ops := by
  rw [reopenRW_id s now h]; exact ⟨rfl, rfl⟩

theorem setAttr_rootOK (s : Store) (o : ObjId) (k v : String) (h : RootOK s) (ho : o ≠ 0) : RootOK (s.setAttr o k v) := by
  have hg : ∀ n, (s.setAttr o k v).hasGroup 0 n = s.hasGroup 0 n := fun n => by
    simp only [hasGroup, child?, linksOf_setAttr, isGroupObj_setAttr]
  refine ⟨by rw [hg]; exact h.metadata, by rw [hg]; exact h.data, ?_⟩
  unfold hasAttr; rw [attr?_setAttr, if_neg (fun hc => ho hc.1.symm)]; exact h.created

/-- C02 for the model, with no hypothesis on the state: after EVERY history of entry points on a new file (object arguments
    being entity objects — everything the API hands out is one, see `Op.entityArgs`), closing and reopening in either mode changes
    neither the store nor anything a getter can show -/
theorem reopen_after_any_history (id created format version now : String) (ops : List Op) (ha : ∀ op ∈ ops, op.entityArgs) :
    reopenRW (run (newFile id created format version) ops) now = run (newFile id created format version) ops ∧
    observe (reopenRW (run (newFile id created format version) ops) now) = observe (run (newFile id created format version) ops) ∧
    observe (reopenRO (run (newFile id created format version) ops)) = observe (run (newFile id created format version) ops) := by
  have hs := (run_sys (newFile_sys id created format version) ops ha).rootOK
  exact ⟨reopenRW_id _ now hs, (reopen_observe_eq _ now hs).1, (reopen_observe_eq _ now hs).2⟩

theorem run_append (s : Store) (a b : List Op) : run s (a ++ b) = run (run s a) b := List.foldl_append

/-- … and a session that closes and reopens in the middle of a history ends in the store of the uninterrupted history -/
theorem reopen_inside_any_history (id created format version now : String) (ops1 ops2 : List Op) (ha : ∀ op ∈ ops1, op.entityArgs) :
    run (reopenRW (run (newFile id created format version) ops1) now) ops2 = run (newFile id created format version) (ops1 ++ ops2) := by
  rw [(reopen_after_any_history id created format version now ops1 ha).1, run_append]

/-- non-vacuity of `Op.entityArgs`: a history that creates a block, an array in it, a section and links the section, with the
    handles the model itself hands out (3 = the block, 5 = the array, 6 = the section) -/
example :
    let ops := [Op.createBlock "b" "xt" "11111111-1111-1111-1111-111111111111" "1",
                Op.createDataArray 3 "a" "xt" "22222222-2222-2222-2222-222222222222" "1" "Double" "[2]",
                Op.createSection none "m" "xt" "33333333-3333-3333-3333-333333333333" "1",
                Op.setSectionLink 5 "metadata" "33333333-3333-3333-3333-333333333333",
                Op.deleteBlock "b"]
    (∀ op ∈ ops, op.entityArgs) ∧
    ((Op.createBlock "b" "xt" "11111111-1111-1111-1111-111111111111" "1").apply (newFile "f" "0" "xnix" "[1,2,0]")).2 = .ok () ∧
    (run (newFile "f" "0" "xnix" "[1,2,0]") (ops.take 4)).child? 5 "metadata" = some 6 ∧
    run (newFile "f" "0" "xnix" "[1,2,0]") ops ≠ newFile "f" "0" "xnix" "[1,2,0]" := by
  refine ⟨?_, ?_, ?_, ?_⟩
  · simp [Op.entityArgs]
  · decide +kernel
  · decide +kernel
  · decide +kernel

/-- non-vacuity of `RootOK`: a file with a block and an array in it has it, and reopens to itself -/
example :
    let s1 := (createBlock (newFile "f" "0" "xnix" "[1,2,0]") "b" "xt" "11111111-1111-1111-1111-111111111111" "1").1
    let s2 := (createDataArray s1 3 "a" "xt" "22222222-2222-2222-2222-222222222222" "1" "Double" "[2]").1
    s2.hasGroup 0 "metadata" = true ∧ s2.hasGroup 0 "data" = true ∧ s2.hasAttr 0 "created_at" = true ∧ reopenRW s2 "9" = s2 := by
  decide +kernel

end Nix.St
