import NixModel.Session
/-
  C11 — after close or flush the file is complete and released.  Theorems about the bookkeeping model (lean/NixModel/Session.lean),
  for every store type, every history and every population of live handles.
-/
namespace Nix.C11
open Nix Nix.Sess

variable {σ : Type}

theorem decRef_keys (id : Nat) : ∀ t : Table, ((decRef id t).map (·.1)).Sublist (t.map (·.1))
  | [] => .slnil
  | (i, n) :: t => by
    simp only [decRef]
    split
    · split
      · exact .cons _ (.refl _)
      · exact .refl _
    · exact .cons_cons _ (decRef_keys id t)

theorem decRef_pos (id : Nat) : ∀ t : Table, (∀ p ∈ t, 1 ≤ p.2) → ∀ p ∈ decRef id t, 1 ≤ p.2
  | [], h => h
  | (i, n) :: t, h => by
    simp only [List.forall_mem_cons] at h
    simp only [decRef]
    split
    · split
      · exact h.2
      · exact List.forall_mem_cons.2 ⟨by simp only; omega, h.2⟩
    · exact List.forall_mem_cons.2 ⟨h.1, decRef_pos id t h.2⟩

theorem decRef_ok (id : Nat) (t : Table) (h : TableOk t) : TableOk (decRef id t) :=
  ⟨h.1.sublist (decRef_keys id t), decRef_pos id t h.2⟩

theorem foldl_decRef_pos (own : List Nat) (t : Table) (h : ∀ p ∈ t, 1 ≤ p.2) :
    ∀ p ∈ own.foldl (fun t id => decRef id t) t, 1 ≤ p.2 := by
  induction own generalizing t with
  | nil => exact h
  | cons i own ih => exact ih _ (decRef_pos i t h)

theorem decN_head (i : Nat) (rest : Table) : ∀ k, 1 ≤ k → decN i k ((i, k) :: rest) = rest
  | 1, _ => by simp [decN, decRef]
  | k + 2, _ => by
    have : decRef i ((i, k + 2) :: rest) = (i, k + 1) :: rest := by simp [decRef]
    rw [decN, this]
    exact decN_head i rest (k + 1) (by omega)

theorem closeObj_head (i n : Nat) (rest : Table) (hn : 1 ≤ n) : closeObj i ((i, n) :: rest) = rest := by
  simp only [closeObj, refCount, ↓reduceIte]
  exact decN_head i rest n hn

/-- the force-close loop empties a table whose counts are positive, whatever is in it (that the ids are distinct, the other half
    of `TableOk`, plays no part: each turn removes the first entry) -/
theorem closeLoop_empties (t : Table) (h : ∀ p ∈ t, 1 ≤ p.2) : closeLoop (t.map (·.1)) t = [] := by
  induction t with
  | nil => rfl
  | cons p t ih =>
    obtain ⟨i, n⟩ := p
    rw [List.forall_mem_cons] at h
    simp only [closeLoop, List.map_cons, List.foldl_cons]
    rw [closeObj_head i n t h.1]
    exact ih h.2

theorem run_keeps (P : State σ → Prop) (ops : List (Op σ)) (hP : ∀ s, ∀ o ∈ ops, P s → P (step s o)) (s : State σ) (hs : P s) :
    P (run s ops) :=
  List.foldlRecOn ops step hs fun s hs o ho => hP s o ho hs

theorem step_closed (s : State σ) (o : Op σ) (v : σ) (h : s.fileOpen = false ∧ s.disk = v) :
    (step s o).fileOpen = false ∧ (step s o).disk = v := by
  cases o <;> simp [step, flush, close, h.1, h.2]

/-- **close_releases_all** — whatever handles are alive when `close()` is called (any set of object ids with any positive reference
    counts, including the File object's own three), afterwards no object id of the file is open, the file id is released, and the
    image on disk is everything the session had written -/
theorem close_releases_all (s : State σ) (hopen : s.fileOpen = true) (hok : ∀ p ∈ s.ids, 1 ≤ p.2) :
    (close s).ids = [] ∧ (close s).fileOpen = false ∧ (close s).disk = s.live ∧ (close s).dirty = false := by
  have h := closeLoop_empties _ (foldl_decRef_pos s.own s.ids hok)
  simp only [close, hopen, Bool.not_true, Bool.false_eq_true, ↓reduceIte, h]
  simp

theorem close_of_closed (s : State σ) (h : s.fileOpen = false) : close s = s := by simp [close, h]

theorem close_idempotent (s : State σ) (hopen : s.fileOpen = true) (hok : TableOk s.ids) : close (close s) = close s :=
  close_of_closed _ (close_releases_all s hopen hok.2).2.1

/-- **handle_after_close_errors** — after `close()` every call through a handle obtained earlier fails -/
theorem handle_after_close_errors (s : State σ) (hopen : s.fileOpen = true) (hok : TableOk s.ids) (id : Nat) :
    useHandle (close s) id = .error .h5Error := by
  have h := close_releases_all s hopen hok.2
  simp [useHandle, h.1, h.2.1]

/-- …and stays failing whatever is attempted afterwards (handles destroyed, calls retried, flush, close) -/
theorem handle_stays_dead (s : State σ) (hclosed : s.fileOpen = false) (ops : List (Op σ)) (id : Nat) :
    useHandle (run s ops) id = .error .h5Error := by
  have := run_keeps (fun t => t.fileOpen = false ∧ t.disk = s.disk) ops (fun t o _ => step_closed t o s.disk) s ⟨hclosed, rfl⟩
  simp [useHandle, this.1]

def Clean (s : State σ) : Prop := s.dirty = false → s.disk = s.live

theorem step_clean (s : State σ) (o : Op σ) (h : Clean s) : Clean (step s o) := by
  cases o with
  | mutate f =>
    simp only [step]
    split
    · exact nofun
    · exact h
  | read | release id => exact h
  | acquire id => simp only [step]; split <;> exact h
  | flush =>
    simp only [step, flush]
    split
    · exact fun _ => rfl
    · exact h
  | close =>
    simp only [step, close]
    split
    · exact h
    · exact fun _ => rfl

/-- for all histories: at every op boundary at which nothing has been modified since the last flush / close, a crash leaves exactly
    what the session had written -/
theorem history_crash_reopen (s₀ : State σ) (h₀ : Clean s₀) (ops : List (Op σ)) (hclean : (run s₀ ops).dirty = false) :
    crash (run s₀ ops) = (run s₀ ops).live :=
  run_keeps Clean ops (fun s o _ => step_clean s o) s₀ h₀ hclean

theorem init_clean (c : σ) (own : List Nat) : Clean (init c own) := fun _ => rfl

theorem run_nonmutating (s : State σ) (v : σ) (hd : s.disk = v) (hl : s.live = v) (ops : List (Op σ))
    (hro : ∀ o ∈ ops, o.isMutate = false) : (run s ops).disk = v ∧ (run s ops).live = v := by
  refine run_keeps (fun s => s.disk = v ∧ s.live = v) ops (fun s o ho h => ?_) s ⟨hd, hl⟩
  have := hro o ho
  -- a mutator is excluded; flush and close put `live` (= v) on disk; the other steps touch neither field
  cases o with
  | mutate f => cases this
  | read | release id => exact h
  | acquire id => simp only [step]; split <;> exact h
  | flush =>
    simp only [step, flush]
    split
    · exact ⟨h.2, h.2⟩
    · exact h
  | close =>
    simp only [step, close]
    split
    · exact h
    · exact ⟨h.2, h.2⟩

/-- **flush_crash_reopen** — once `flush()` has returned on an open file, then whatever read-only calls, handle creations and
    destructions, further flushes or a close follow, a crash leaves everything written before the flush -/
theorem flush_crash_reopen (s : State σ) (hopen : s.fileOpen = true) (after : List (Op σ))
    (hro : ∀ o ∈ after, o.isMutate = false) : crash (run (step s .flush) after) = s.live := by
  have hf : (step s .flush).disk = s.live ∧ (step s .flush).live = s.live := by simp [step, flush, hopen]
  exact (run_nonmutating _ s.live hf.1 hf.2 after hro).1

/-- **close_crash_reopen** — once `close()` has returned, then whatever is attempted afterwards — including modifying calls through
    handles obtained earlier, which can no longer reach the file — a crash leaves everything written before the close -/
theorem close_crash_reopen (s : State σ) (hopen : s.fileOpen = true) (hok : TableOk s.ids) (after : List (Op σ)) :
    crash (run (step s .close) after) = s.live := by
  have hc := close_releases_all s hopen hok.2
  exact (run_keeps (fun t => t.fileOpen = false ∧ t.disk = s.live) after (fun s' o _ => step_closed s' o s.live) (close s)
    ⟨hc.2.1, hc.2.2.1⟩).2

/-- "it contains everything written before": the image a crash after a flush leaves is the fold of every modifying call before it -/
theorem flushed_image_is_all_writes (c : σ) (own : List Nat) (fs : List (σ → σ)) :
    crash (step (run (init c own) (fs.map .mutate)) .flush) = fs.foldl (fun x f => f x) c := by
  have key : ∀ (s : State σ), s.fileOpen = true →
      (run s (fs.map Op.mutate)).fileOpen = true ∧ (run s (fs.map Op.mutate)).live = fs.foldl (fun x f => f x) s.live := by
    induction fs with
    | nil => exact fun s hs => ⟨hs, rfl⟩
    | cons f fs ih =>
      intro s hs
      have := ih (step s (.mutate f)) (by simp [step, hs])
      simpa [run, step, hs] using this
  have h := key (init c own) rfl
  simp only [crash, step, flush, h.1, ↓reduceIte, h.2]
  rfl

-- four handles on one block (count 4), two on an array, the File's own three ids
def exTable : Table := [(1, 1), (2, 1), (3, 1), (10, 4), (11, 2), (12, 1)]
def exState : State (List String) :=
  { live := ["b", "a"], disk := ["b"], dirty := true, fileOpen := true, ids := exTable, own := [1, 2, 3] }

example : TableOk exTable := ⟨by decide, by decide⟩
example : (close exState).ids = [] ∧ (close exState).fileOpen = false ∧ (close exState).disk = ["b", "a"] := by decide
example : useHandle exState 10 = .ok () := by decide
example : useHandle (close exState) 10 = .error .h5Error := by decide
-- without the inner loop over the reference count an id would survive and keep the file open
example : (closeLoop [10, 11, 12] exTable).length = 3 := by decide
example : ([10, 11, 12].foldl (fun t id => decRef id t) [(10, 4), (11, 2), (12, 1)]) = [(10, 3), (11, 1)] := by decide
-- a crash while dirty loses the unflushed write; after a flush it does not
example : crash exState = ["b"] := rfl
example : crash (run exState [.flush, .read, .release 10]) = ["b", "a"] := by decide
example : crash (run exState [.flush, .mutate (fun l => l ++ ["x"])]) = ["b", "a"] := by decide
example : (run exState [.flush, .mutate (fun l => l ++ ["x"])]).dirty = true := by decide

end Nix.C11
