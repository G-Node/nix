import NixModel.Proofs.OpWrites
/-
  C12 (store-model part) — an entity keeps its id for life.

  `IdsKept s s'`: every object of `s` is still an object of `s'` and carries the `entity_id` it carried.  It holds across EVERY
  entry point of the store model (`entity_id_immutable`): creation initialises a group that the duplicate check has made sure
  is NEW (this is what Block::createDataFrame broke on the pinned tree: it re-initialised the existing group, D2), every link
  operation and every delete touches links only, and no setter writes the `entity_id` attribute — read off the attribute
  footprint of the entry points (`apply_writes`, Proofs/OpWrites.lean).
-/
namespace Nix.St
open Store

def IdsKept (s s' : Store) : Prop :=
  s.objs.length ≤ s'.objs.length ∧ ∀ o, o < s.objs.length → s'.attr? o "entity_id" = s.attr? o "entity_id"

theorem IdsKept.refl (s : Store) : IdsKept s s := ⟨Nat.le_refl _, fun _ _ => rfl⟩

theorem IdsKept.trans {a b c : Store} (h1 : IdsKept a b) (h2 : IdsKept b c) : IdsKept a c :=
  ⟨Nat.le_trans h1.1 h2.1, fun o ho => by rw [h2.2 o (Nat.lt_of_lt_of_le ho h1.1), h1.2 o ho]⟩

theorem Writes.idsKept {W : ObjId → String → Option String → Prop} {s s' : Store} (h : Writes W s s')
    (hW : ∀ o v, W o "entity_id" v → s.objs.length ≤ o) : IdsKept s s' :=
  ⟨h.1, fun o ho => (h.2 o _).elim id fun hw => absurd ho (Nat.not_lt.mpr (hW o _ hw))⟩

theorem Writes.idsKept_of_none {s s' : Store} (h : Writes noWrite s s') : IdsKept s s' := h.idsKept fun _ _ hw => hw.elim

theorem IdsKept.openGroupCreate (s : Store) (g : ObjId) (n : String) : IdsKept s (s.openGroupCreate g n).1 :=
  (Writes.openGroupCreate s g n).idsKept_of_none

theorem IdsKept.addLink (s : Store) (g : ObjId) (n : String) (t : ObjId) : IdsKept s (s.addLink g n t) :=
  (Writes.addLink s g n t).idsKept_of_none

theorem IdsKept.unlink (s : Store) (g : ObjId) (n : String) : IdsKept s (s.unlink g n) := (Writes.unlink s g n).idsKept_of_none

theorem IdsKept.removeGroup (s : Store) (g : ObjId) (n : String) : IdsKept s (s.removeGroup g n) := (Writes.removeGroup s g n).idsKept_of_none

theorem IdsKept.removeData (s : Store) (g : ObjId) (n : String) : IdsKept s (s.removeData g n) := (Writes.removeData s g n).idsKept_of_none

theorem IdsKept.unlinkAll (s : Store) (D : List ObjId) : IdsKept s (s.unlinkAll D) := (Writes.unlinkAll s D).idsKept_of_none

/-- C12: no entry point of the store model changes the id of anything that exists — for EVERY operation and EVERY store -/
theorem entity_id_immutable (s : Store) (op : Op) (hsafe : op.idSafe s) : IdsKept s (op.apply s).1 := by
  obtain ⟨g, h⟩ := apply_writes s op hsafe
  refine h.idsKept fun o v hw => ?_
  unfold Op.mayWrite at hw
  split at hw
  · exact hw.1 ▸ hw.2.1
  · exact absurd rfl hw

/-- and so across every history whose operations meet the side conditions when they are applied -/
theorem history_ids_kept (ops : List Op) (s : Store) (h : ∀ (pre : List Op) (op : Op) (post : List Op), ops = pre ++ op :: post → op.idSafe (run s pre)) :
    IdsKept s (run s ops) := by
  induction ops generalizing s with
  | nil => exact IdsKept.refl s
  | cons op rest ih =>
    exact (entity_id_immutable s op (h [] op rest rfl)).trans
      (ih _ fun pre o post he => h (op :: pre) o post (congrArg (op :: ·) he))

end Nix.St
