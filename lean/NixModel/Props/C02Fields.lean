import NixModel.Gen.Fields
/-
  C02 / C13 / C14 — "reads back what it was given": a field of an entity is an HDF5 attribute (or a small data set) that the setter
  writes, the getter reads and the reset overload removes, each NAMING it by a string literal.  `gen/extract_fields.py` reads, on every
  run, which names every member function of the HDF5 backend hands to the attribute / data-set primitives.  A getter that names another
  attribute than its setter (or a `has` guard that asks for another name than the call it guards, or a reset that removes another
  attribute) makes a field that was set read back as "not set" — in the session or after the reopen.
-/
namespace Nix.Fields
open Nix.Gen.Fields

abbrev Row := String × String × String × String × String
def Row.cls (r : Row) := r.1
def Row.fn (r : Row) := r.2.1
def Row.kind (r : Row) := r.2.2.1
def Row.op (r : Row) := r.2.2.2.1
def Row.name (r : Row) := r.2.2.2.2

/-- the primitives that read / write / test / remove ONE attribute or data set of the entity's group -/
def fieldOps : List String := ["getAttr", "setAttr", "hasAttr", "removeAttr", "hasData", "openData", "createData", "removeData"]
def Row.isField (r : Row) : Bool := fieldOps.contains r.op && r.name != "?"

/-- the functions that by design touch several fields: the header of the file, the constructor of a property (a data set: it has no
    NamedEntity constructor to do it), the creation of a frame (table + units), the ticks of a range dimension (attribute of the
    dimension or data of the aliased array) -/
def several : List (String × String) :=
  [("FileHDF5", "checkHeader"), ("FileHDF5", "createHeader"), ("PropertyHDF5", "PropertyHDF5"),
   ("DataFrameHDF5", "createData"), ("RangeDimensionHDF5", "ticks")]

def fieldRows : List Row := accesses.filter fun r => r.isField && !several.contains (r.cls, r.fn)

def fieldOf (cls fn : String) : Option String := (fieldRows.find? fun r => r.cls == cls && r.fn == fn).map (·.name)

/-- **all overloads of an accessor — getter, setter, reset — and every guard inside them name ONE attribute / data set** -/
theorem accessor_overloads_name_one_field : ∀ r : Row, r ∈ fieldRows → fieldOf r.cls r.fn = some r.name := by decide +kernel

def writes (r : Row) : Bool := r.op == "setAttr" || r.op == "createData"
def reads (r : Row) : Bool := r.op == "getAttr" || r.op == "openData"

/-- **whatever a backend function writes under a literal name, some function of the backend reads under that name** (and the other
    way round: nothing is read that nothing writes) -/
theorem every_written_field_is_read :
    ∀ w : Row, w ∈ accesses → w.isField = true → writes w = true → ∃ r : Row, r ∈ accesses ∧ reads r = true ∧ r.name = w.name := by decide +kernel
theorem every_read_field_is_written :
    ∀ r : Row, r ∈ accesses → r.isField = true → reads r = true → ∃ w : Row, w ∈ accesses ∧ writes w = true ∧ w.name = r.name := by decide +kernel

/-- **a reset overload removes exactly what the setter of the same name writes** -/
theorem reset_removes_what_the_setter_writes :
    ∀ r : Row, r ∈ accesses → r.kind = "reset" → r.op = "removeAttr" →
      ∃ w : Row, w ∈ accesses ∧ w.cls = r.cls ∧ w.fn = r.fn ∧ w.kind = "arg" ∧ w.op = "setAttr" ∧ w.name = r.name := by decide +kernel

/-- the fields that are written by a constructor only — ids, names of the entity, creation time, the column of a data-frame
    dimension — or by a function of another name — `updated_at` by `setUpdatedAt` / `forceUpdatedAt`: they have no setter;
    `every_read_field_is_written` covers them -/
def writtenOnce : List String :=
  ["entity_id", "name", "created_at", "updated_at", "format", "version", "id", "dimension_type", "data", "units", "column_index"]
/-- **every getter that reads an attribute has a setter of the same name in its class that writes it**, the fields of `writtenOnce`
    apart -/
theorem getter_has_a_setter :
    ∀ r : Row, r ∈ fieldRows → r.kind = "get" → reads r = true → ¬ r.name ∈ writtenOnce →
      ∃ w : Row, w ∈ accesses ∧ w.cls = r.cls ∧ w.fn = r.fn ∧ w.kind = "arg" ∧ writes w = true ∧ w.name = r.name := by decide +kernel

/-- the accessor (class, function) → attribute pairs the models rely on: the store model (`Entities.lean`, `Observe.lean`,
    `Drive/StoreModel.lean`), the dimension model (`DimDesc.lean`), the property model (`Property.lean`) -/
theorem model_field_names :
    fieldOf "NamedEntityHDF5" "definition" = some "definition" ∧
    fieldOf "NamedEntityHDF5" "type" = some "type" ∧
    fieldOf "NamedEntityHDF5" "name" = some "name" ∧
    fieldOf "EntityHDF5" "id" = some "entity_id" ∧
    fieldOf "EntityHDF5" "createdAt" = some "created_at" ∧
    fieldOf "EntityHDF5" "updatedAt" = some "updated_at" ∧
    fieldOf "SectionHDF5" "repository" = some "repository" ∧
    fieldOf "DataArrayHDF5" "label" = some "label" ∧
    fieldOf "DataArrayHDF5" "unit" = some "unit" ∧
    fieldOf "DataArrayHDF5" "expansionOrigin" = some "expansion_origin" ∧
    fieldOf "DataArrayHDF5" "polynomCoefficients" = some "polynom_coefficients" ∧
    fieldOf "TagHDF5" "position" = some "position" ∧
    fieldOf "TagHDF5" "extent" = some "extent" ∧
    fieldOf "TagHDF5" "units" = some "units" ∧
    fieldOf "MultiTagHDF5" "units" = some "units" ∧
    fieldOf "FeatureHDF5" "linkType" = some "link_type" ∧
    fieldOf "SampledDimensionHDF5" "samplingInterval" = some "sampling_interval" ∧
    fieldOf "SampledDimensionHDF5" "offset" = some "offset" ∧
    fieldOf "SampledDimensionHDF5" "unit" = some "unit" ∧
    fieldOf "SampledDimensionHDF5" "label" = some "label" ∧
    fieldOf "SetDimensionHDF5" "labels" = some "labels" ∧
    fieldOf "RangeDimensionHDF5" "unit" = some "unit" ∧
    fieldOf "RangeDimensionHDF5" "label" = some "label" ∧
    fieldOf "DataFrameDimensionHDF5" "columnIndex" = some "column_index" ∧
    fieldOf "PropertyHDF5" "unit" = some "unit" ∧
    fieldOf "PropertyHDF5" "uncertainty" = some "uncertainty" ∧
    fieldOf "PropertyHDF5" "definition" = some "definition" := by decide +kernel

/-- non-vacuity: the table is the size it is on the pinned tree or larger, and holds the three overloads of a field -/
example : 120 ≤ fieldRows.length := by decide +kernel
example : ("SampledDimensionHDF5", "offset", "reset", "removeAttr", "offset") ∈ accesses ∧
          ("SampledDimensionHDF5", "offset", "arg", "setAttr", "offset") ∈ accesses ∧
          ("SampledDimensionHDF5", "offset", "get", "getAttr", "offset") ∈ accesses := by decide +kernel

end Nix.Fields
