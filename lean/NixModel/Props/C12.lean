import NixModel.Ids
/-
  C12 — ids (model: NixModel/Ids.lean).  The text form of 16 bytes is a well-formed UUID and loses nothing; given a source that never
  repeats itself the ids of a file stay pairwise distinct (`Inv`); no step but `forceId` rewrites an id; and a generator that is a
  function of its seed is no such source once two processes share the seed.
-/
namespace Nix.C12
open Nix Nix.Ids

theorem isHex_hexDigit : ∀ n < 16, Dump.isHex (hexDigit n) = true := by decide +kernel

theorem hexDigit_inj : ∀ m < 16, ∀ n < 16, hexDigit m = hexDigit n → m = n := by decide +kernel

theorem hi_lt (b : Byte) : b.val / 16 < 16 := Nat.div_lt_of_lt_mul b.isLt
theorem lo_lt (b : Byte) : b.val % 16 < 16 := Nat.mod_lt _ (by decide)

theorem version_nibble : ∀ b : Byte, hexDigit ((stampVersion b).val / 16) = '4' := by decide +kernel
theorem variant_nibble : ∀ b : Byte, let c := hexDigit ((stampVariant b).val / 16); (c == '8' || c == '9' || c == 'a' || c == 'b') = true := by
  decide +kernel

theorem uuidChars_shape (bs : List Byte) (h : bs.length = 16) :
    Dump.wellFormedUUID (String.ofList (uuidChars bs)) = true ∧
    (uuidChars bs)[14]? = some (hexDigit ((bs.getD 6 0).val / 16)) ∧ (uuidChars bs)[19]? = some (hexDigit ((bs.getD 8 0).val / 16)) := by
  -- the format is a fixed template of 36 characters: checked on the 16 bytes written out, position by position
  match bs, h with
  | [b0, b1, b2, b3, b4, b5, b6, b7, b8, b9, b10, b11, b12, b13, b14, b15], _ =>
    simp [Dump.wellFormedUUID, uuidChars, hexOf, byteHex, List.take, List.drop, List.range, List.range.loop, isHex_hexDigit, hi_lt, lo_lt]

theorem uuidChars_wellformed (bs : List Byte) (h : bs.length = 16) : Dump.wellFormedUUID (String.ofList (uuidChars bs)) = true :=
  (uuidChars_shape bs h).1

/-- **uuidText_wellformed** — for every 128-bit value the generator can draw, the id is a well-formed UUID: 8-4-4-4-12 lower-case hex,
    version nibble 4, variant bits 10 -/
theorem uuidText_wellformed (v : BitVec 128) : wellFormedV4 (uuidText v) = true := by
  obtain ⟨hw, h14, h19⟩ := uuidChars_shape (stamp (bytesOf v)) (by simp [stamp, bytesOf])
  have h6 : (stamp (bytesOf v)).getD 6 0 = stampVersion ((bytesOf v).getD 6 0) := by simp [stamp, bytesOf]
  have h8 : (stamp (bytesOf v)).getD 8 0 = stampVariant ((bytesOf v).getD 8 0) := by simp [stamp, bytesOf]
  rw [wellFormedV4, uuidText, hw, String.toList_ofList, h14, h19, h6, h8, version_nibble]
  exact variant_nibble _

theorem byte_inj (b c : Byte) (hhi : hexDigit (b.val / 16) = hexDigit (c.val / 16)) (hlo : hexDigit (b.val % 16) = hexDigit (c.val % 16)) :
    b = c := by
  have h1 := hexDigit_inj _ (hi_lt b) _ (hi_lt c) hhi
  have h2 := hexDigit_inj _ (lo_lt b) _ (lo_lt c) hlo
  exact Fin.ext (by omega)

theorem hexOf_cons (b : Byte) (bs : List Byte) :
    hexOf (b :: bs) = hexDigit (b.val / 16) :: hexDigit (b.val % 16) :: hexOf bs := rfl

theorem hexOf_append (as bs : List Byte) : hexOf (as ++ bs) = hexOf as ++ hexOf bs := List.flatMap_append

theorem hexOf_inj : ∀ bs cs : List Byte, hexOf bs = hexOf cs → bs = cs
  | [], [] => fun _ => rfl
  | [], _ :: _ => nofun
  | _ :: _, [] => nofun
  | b :: bs, c :: cs => fun h => by
    rw [hexOf_cons, hexOf_cons, List.cons.injEq, List.cons.injEq] at h
    rw [byte_inj b c h.1 h.2.1, hexOf_inj bs cs h.2.2]

theorem isHex_of_mem_hexOf {c : Char} {bs : List Byte} (h : c ∈ hexOf bs) : Dump.isHex c = true := by
  obtain ⟨b, -, hc⟩ := List.mem_flatMap.mp h
  rcases List.mem_cons.mp hc with rfl | hc
  · exact isHex_hexDigit _ (hi_lt b)
  · rw [List.mem_singleton.mp hc]; exact isHex_hexDigit _ (lo_lt b)

theorem undash_hexOf (bs : List Byte) : (hexOf bs).filter (· != '-') = hexOf bs :=
  List.filter_eq_self.mpr fun _ hc => bne_iff_ne.mpr fun e => absurd (e ▸ isHex_of_mem_hexOf hc) (by decide)

theorem take_drop_append_drop {α} (l : List α) (n k : Nat) : (l.drop n).take k ++ l.drop (n + k) = l.drop n := by
  rw [← List.drop_drop, List.take_append_drop]

theorem undash_uuidChars (bs : List Byte) : (uuidChars bs).filter (· != '-') = hexOf bs := by
  simp only [uuidChars, List.filter_append, List.filter_cons, undash_hexOf, bne_self_eq_false, Bool.false_eq_true, if_false,
    ← hexOf_append, List.append_assoc]
  rw [take_drop_append_drop bs 8 2, take_drop_append_drop bs 6 2, take_drop_append_drop bs 4 2, List.take_append_drop]

theorem uuidChars_injective (bs cs : List Byte) (h : String.ofList (uuidChars bs) = String.ofList (uuidChars cs)) : bs = cs :=
  hexOf_inj bs cs (by rw [← undash_uuidChars, String.ofList_injective h, undash_uuidChars])

set_option linter.unusedVariables false in
/-- **uuidText_injective** — as a function of the UUID value (the 16 bytes after the stamps) the id text is injective.  (As a function
    of the raw 128 random bits it cannot be: the stamps overwrite 6 of them — see `uuidText_eq_iff`.) -/
theorem uuidText_injective (bs cs : List Byte) (hb : bs.length = 16) (hc : cs.length = 16)
    (h : String.ofList (uuidChars bs) = String.ofList (uuidChars cs)) : bs = cs := uuidChars_injective bs cs h

/-- two draws give the same id exactly when they agree on the 122 bits the stamps leave free -/
theorem uuidText_eq_iff (v w : BitVec 128) : uuidText v = uuidText w ↔ stamp (bytesOf v) = stamp (bytesOf w) :=
  ⟨uuidChars_injective _ _, fun h => by rw [uuidText, h, uuidText]⟩

/-- what the theorems need from an id source: it never hands out the same id twice (across every session and process that ever
    writes to the file — the draws are numbered globally) -/
def FreshIds (src : Nat → String) : Prop := ∀ m n, src m = src n → m = n

/-- `Nodup` alone is not inductive: none of the ids present may be a draw still to come -/
def Inv (src : Nat → String) (ids : List String) (drawn : Nat) : Prop :=
  ids.Nodup ∧ ∀ n, drawn ≤ n → src n ∉ ids

theorem Inv.mono {src : Nat → String} {l l' : List String} {d d' : Nat} (h : Inv src l d) (hs : l'.Sublist l) (hd : d ≤ d') :
    Inv src l' d' :=
  ⟨h.1.sublist hs, fun n hn hm => h.2 n (Nat.le_trans hd hn) (hs.subset hm)⟩

/-- up to `Perm`: `create` puts the draw at the end of `allIds`, `forceId` at its head -/
theorem Inv.add {src : Nat → String} (hf : FreshIds src) {l l' : List String} {d : Nat} (h : Inv src l d)
    (hp : l'.Perm (src d :: l)) : Inv src l' (d + 1) := by
  refine ⟨(List.nodup_cons.mpr ⟨h.2 d (Nat.le_refl d), h.1⟩).perm hp.symm, fun n hn hm => ?_⟩
  rcases List.mem_cons.mp (hp.mem_iff.mp hm) with e | hm
  · exact Nat.ne_of_gt hn (hf n d e)
  · exact h.2 n (Nat.le_of_succ_le hn) hm

theorem inv_new {src : Nat → String} (hf : FreshIds src) : Inv src (newFile src).allIds (newFile src).drawn :=
  ⟨List.nodup_cons.mpr ⟨List.not_mem_nil, List.nodup_nil⟩, fun n hn hm => Nat.ne_of_gt hn (hf n 0 (List.mem_singleton.mp hm))⟩

/-- `modify` renames: key and id stay -/
theorem rename_key (e : Ent) (m : Nat) (n : String) : (if e.key == m then { e with name := n } else e).key = e.key := by
  split <;> rfl
theorem rename_id (e : Ent) (m : Nat) (n : String) : (if e.key == m then { e with name := n } else e).id = e.id := by
  split <;> rfl

theorem step_inv (src : Nat → String) (hf : FreshIds src) (f : File) (op : Op) (h : Inv src f.allIds f.drawn) :
    Inv src (step src f op).allIds (step src f op).drawn := by
  cases op with
  | create name =>
    simp only [step]
    split
    · exact h
    · exact h.add hf (by simpa [File.allIds] using List.perm_append_singleton (src f.drawn) f.allIds)
  | delete k => exact h.mono ((List.filter_sublist.map _).cons_cons _) (Nat.le_refl _)
  | modify k n => simpa only [step, File.allIds, List.map_map, Function.comp_def, rename_id] using h
  | reopen => exact h
  | forceId => exact (h.mono (List.sublist_cons_self _ _) (Nat.le_refl _)).add hf (.refl _)

/-- **ids_distinct_invariant** — given a source that never repeats itself, after every history of creations, deletions, modifications,
    close/reopen cycles and forceId calls the file id and all entity ids in the file are pairwise distinct -/
theorem ids_distinct_invariant (src : Nat → String) (hf : FreshIds src) (ops : List Op) : (run src (newFile src) ops).allIds.Nodup :=
  (List.foldlRecOn ops (step src) (motive := fun g => Inv src g.allIds g.drawn) (inv_new hf) fun g hg o _ => step_inv src hf g o hg).1

theorem idOf_create (src : Nat → String) (f : File) (name : String) (k : Nat) :
    (step src f (.create name)).idOf k =
      if f.ents.any (·.name == name) then f.idOf k
      else (f.idOf k).or (if f.nextKey = k then some (src f.drawn) else none) := by
  simp only [step]
  split
  · rfl
  · simp only [File.idOf, List.find?_append, Option.map_or]
    congr 1
    by_cases hk : f.nextKey = k <;> simp [hk]

theorem idOf_delete (src : Nat → String) (f : File) (d k : Nat) :
    (step src f (.delete d)).idOf k = if k = d then none else f.idOf k := by
  simp only [step, File.idOf, List.find?_filter]
  split
  · rw [List.find?_eq_none.mpr (by simp_all), Option.map_none]
  · congr 2
    funext e
    by_cases he : e.key = k <;> simp_all

theorem idOf_modify (src : Nat → String) (f : File) (m k : Nat) (n : String) : (step src f (.modify m n)).idOf k = f.idOf k := by
  simp only [step, File.idOf, List.find?_map, Option.map_map, Function.comp_def, rename_key, rename_id]

/-- a step leaves the entry of a key alone or removes it — unless the key is the next to be handed out and has no entry yet -/
theorem idOf_step (src : Nat → String) (f : File) (op : Op) (k : Nat) (hk : f.idOf k = none → f.nextKey ≠ k) :
    (step src f op).idOf k = f.idOf k ∨ (step src f op).idOf k = none := by
  cases op with
  | create name =>
    rw [idOf_create]
    split
    · exact .inl rfl
    · cases h : f.idOf k with
      | none => rw [Option.none_or, if_neg (hk h)]; exact .inr rfl
      | some i => exact .inl rfl
  | delete d =>
    rw [idOf_delete]
    split
    · exact .inr rfl
    · exact .inl rfl
  | modify m n => exact .inl (idOf_modify src f m k n)
  | reopen => exact .inl rfl
  | forceId => exact .inl rfl

theorem fileId_step (src : Nat → String) (f : File) (op : Op) (hop : op ≠ .forceId) : (step src f op).fileId = f.fileId := by
  cases op with
  | forceId => exact absurd rfl hop
  | create name => simp only [step]; split <;> rfl
  | _ => rfl

/-- **id_immutable** — no operation other than `File::forceId` changes an existing id: an entity that exists before and after a step has
    the id it had, and the file keeps its id -/
theorem id_immutable (src : Nat → String) (f : File) (op : Op) (hop : op ≠ .forceId) :
    (step src f op).fileId = f.fileId ∧
    ∀ k i, f.idOf k = some i → ((step src f op).idOf k = some i ∨ (step src f op).idOf k = none) :=
  ⟨fileId_step src f op hop, fun k i h => (idOf_step src f op k (by rw [h]; nofun)).imp_left (·.trans h)⟩

theorem nextKey_step (src : Nat → String) (f : File) (op : Op) : f.nextKey ≤ (step src f op).nextKey := by
  cases op with
  | create name => simp only [step]; split <;> simp
  | _ => exact Nat.le_refl _

theorem run_keeps_ids (src : Nat → String) (f : File) (ops : List Op) (hops : ∀ o ∈ ops, o ≠ .forceId) :
    (run src f ops).fileId = f.fileId ∧
    ∀ k < f.nextKey, (run src f ops).idOf k = f.idOf k ∨ (run src f ops).idOf k = none :=
  -- the invariant: the claim itself, and that no key is taken back
  (List.foldlRecOn ops (step src)
    (motive := fun g => f.nextKey ≤ g.nextKey ∧ g.fileId = f.fileId ∧ ∀ k < f.nextKey, g.idOf k = f.idOf k ∨ g.idOf k = none)
    ⟨Nat.le_refl _, rfl, fun _ _ => .inl rfl⟩
    fun g ⟨hn, hid, hks⟩ o ho =>
      ⟨Nat.le_trans hn (nextKey_step src g o), (fileId_step src g o (hops o ho)).trans hid, fun k hk => by
        rcases idOf_step src g o k fun _ => Nat.ne_of_gt (Nat.lt_of_lt_of_le hk hn) with h | h
        · rw [h]; exact hks k hk
        · exact .inr h⟩).2

def KeysOk (f : File) : Prop := ∀ e ∈ f.ents, e.key < f.nextKey

/-- a fresh file has no entities, so with this every file a history reaches meets the hypothesis of `id_immutable_history` -/
theorem step_keysOk (src : Nat → String) (f : File) (op : Op) (h : KeysOk f) : KeysOk (step src f op) := by
  cases op with
  | create name =>
    simp only [step]
    split
    · exact h
    · intro e he
      rcases List.mem_append.mp he with he | he
      · exact Nat.lt_succ_of_lt (h e he)
      · rw [List.mem_singleton.mp he]; exact Nat.lt_succ_self _
  | delete d => exact fun e he => h e (List.mem_filter.mp he).1
  | modify m n =>
    intro e he
    obtain ⟨e', he', rfl⟩ := List.mem_map.mp he
    rw [rename_key]
    exact h e' he'
  | reopen => exact h
  | forceId => exact h

theorem idOf_some_lt (f : File) (hk : KeysOk f) (k : Nat) (i : String) (h : f.idOf k = some i) : k < f.nextKey := by
  obtain ⟨e, he, _⟩ := Option.map_eq_some_iff.mp h
  have hkey : e.key = k := by simpa using List.find?_some he
  exact hkey ▸ hk e (List.mem_of_find?_eq_some he)

/-- over whole histories without forceId: the file id is constant, and an entity keeps its id for as long as it exists — once deleted
    its key (and so its place) is never taken by another entity -/
theorem id_immutable_history (src : Nat → String) (f : File) (hk : KeysOk f) (ops : List Op) (hops : ∀ o ∈ ops, o ≠ .forceId) :
    (run src f ops).fileId = f.fileId ∧
    ∀ k i, f.idOf k = some i → ((run src f ops).idOf k = some i ∨ (run src f ops).idOf k = none) :=
  have ⟨hid, hks⟩ := run_keeps_ids src f ops hops
  ⟨hid, fun k i h => h ▸ hks k (idOf_some_lt f hk k i h)⟩

variable {State Seed : Type}

/-- **same_seed_same_ids** — two processes whose generators were seeded with the same value create the same ids, in the same order -/
theorem same_seed_same_ids (g : Gen State Seed) (s₁ s₂ : Seed) (h : s₁ = s₂) (n : Nat) : g.draw s₁ n = g.draw s₂ n := by
  subst h; rfl

/-- the formal reason seeding with `time(0)` violates the property: if the seed is the second in which the process started, two
    processes started in the same second are not a fresh source — whatever the generator is -/
theorem time_seeded_not_fresh (g : Gen State Nat) (startSecond : Nat → Nat) (p q : Nat) (hpq : p ≠ q)
    (hsame : startSecond p = startSecond q) :
    ¬ (∀ a b : Nat × Nat, g.draw (startSecond a.1) a.2 = g.draw (startSecond b.1) b.2 → a = b) :=
  fun hinj => hpq (congrArg Prod.fst (hinj (p, 0) (q, 0) (same_seed_same_ids g _ _ hsame 0)))

example : uuidText 0 = "00000000-0000-4000-8000-000000000000" := by decide +kernel
example : wellFormedV4 "12345678-1234-4234-9234-123456789abc" = true := by decide +kernel
example : wellFormedV4 "12345678-1234-1234-1234-123456789abc" = false := by decide +kernel
example : inImageOfUuidText "12345678-1234-4234-9234-123456789abc" = true := by decide +kernel
example : inImageOfUuidText "12345678-1234-4234-c234-123456789abc" = false := by decide +kernel
-- a counter standing in for a fresh source
def exSrc (n : Nat) : String := uuidText (BitVec.ofNat 128 (n * 2 ^ 64 + n))
example : (run exSrc (newFile exSrc) [.create "a", .create "b", .create "a", .delete 0, .reopen, .create "c", .forceId, .modify 1 "z"]).allIds.length = 3 := by
  decide +kernel
-- a source that repeats itself breaks distinctness: the hypothesis is needed
example : ¬ (run (fun _ => "x") (newFile fun _ => "x") [.create "a"]).allIds.Nodup := by decide +kernel
-- forceId does change the file id: the exception in id_immutable is needed
example : (step exSrc (newFile exSrc) .forceId).fileId ≠ (newFile exSrc).fileId := by decide +kernel

end Nix.C12
