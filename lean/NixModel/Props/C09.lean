import NixModel.OpenMode
import NixModel.Spec.C09
/-
  C09 — open modes.  Property theorems about the model of `File::open` / `FileHDF5::FileHDF5` and of a session
  (lean/NixModel/OpenMode.lean), for every content type `C`, every library version, every clock / id source.
-/
namespace Nix.C09
open Nix Nix.Modes

variable {C : Type} (empty : C) (lib : FormatVersion) (env : Env)

/-- nothing left for `rootSteps` to add: what every file written by the library has -/
def Root.complete (r : Root) : Bool := r.hasMetadata && r.hasData && r.createdAt.isSome && r.updatedAt.isSome

def completed (now : Nat) (r : Root) : Root :=
  { r with hasMetadata := true, hasData := true, createdAt := some (r.createdAt.getD now), updatedAt := some (r.updatedAt.getD now) }

theorem rootSteps_writable (now : Nat) (r : Root) : rootSteps true now r = (completed now r, none) := by
  obtain ⟨f, v, i, m, d, c, u⟩ := r
  cases m <;> cases d <;> cases c <;> cases u <;> simp [rootSteps, ensure, completed]

theorem rootSteps_readOnly (now : Nat) (r : Root) :
    rootSteps false now r = (r, if Root.complete r then none else some .h5Error) := by
  obtain ⟨f, v, i, m, d, c, u⟩ := r
  cases m <;> cases d <;> cases c <;> cases u <;> simp [rootSteps, ensure, Root.complete]

theorem completed_of_complete (now : Nat) (r : Root) (h : Root.complete r = true) : completed now r = r := by
  obtain ⟨f, v, i, m, d, c, u⟩ := r
  cases m <;> cases d <;> cases c <;> cases u <;> simp_all [completed, Root.complete]

theorem proceed_readOnly (fv : FormatVersion) (r : Root) (c : C) :
    proceed env .readOnly fv r c =
      if Root.complete r then ⟨.ok { mode := .readOnly, writable := false, root := r, content := c, version := fv }, .h5 r c⟩
      else ⟨.error .h5Error, .h5 r c⟩ := by
  simp only [proceed, show (FileMode.readOnly != FileMode.readOnly) = false from rfl, rootSteps_readOnly]
  cases Root.complete r <;> rfl

theorem proceed_writable (mode : FileMode) (hm : mode ≠ .readOnly) (fv : FormatVersion) (r : Root) (c : C) :
    proceed env mode fv r c =
      ⟨.ok { mode := mode, writable := true, root := completed env.now r, content := c, version := fv }, .h5 (completed env.now r) c⟩ := by
  have : (mode != FileMode.readOnly) = true := by cases mode <;> first | rfl | exact absurd rfl hm
  simp only [proceed, this, rootSteps_writable]

theorem openFile_h5 (r : Root) (c : C) (mode : FileMode) (hm : mode ≠ .overwrite) (force : Bool) :
    openFile empty lib env (.h5 r c) mode force =
      match headerCheck lib r mode force with
      | .error e => ⟨.error e, .h5 r c⟩
      | .ok fv => proceed env mode fv r c := by
  cases mode with
  | overwrite => exact absurd rfl hm
  | readOnly => simp [openFile, Disk.present]; cases headerCheck lib r .readOnly force <;> rfl
  | readWrite => simp [openFile, Disk.present]; cases headerCheck lib r .readWrite force <;> rfl

/-- **ro_missing_refused** — ReadOnly on a path where nothing exists is refused, and nothing is created there -/
theorem ro_missing_refused (force : Bool) :
    openFile empty lib env (.missing : Disk C) .readOnly force = ⟨.error .stdRuntime, .missing⟩ := by
  simp [openFile, Disk.present]

/-- the answer satisfies the specification's relation -/
theorem ro_missing_refused_rel (force : Bool) :
    relRoMissing (match (openFile empty lib env (.missing : Disk C) .readOnly force).result with
                  | .error e => .refused e.name | .ok s => .opened "" s.mode 0 0)
                 (match (openFile empty lib env (.missing : Disk C) .readOnly force).disk with
                  | .missing => .nothing | .dir => .dir | _ => .bytes 0 "") = true := by
  rw [ro_missing_refused]; rfl

example : openFile (C := Nat) 0 libVersion ⟨5, "id"⟩ .missing .readOnly false = ⟨.error .stdRuntime, .missing⟩ := by decide

/-- **ro_open_never_writes** — whatever is at the path, whatever the outcome, a ReadOnly open leaves it as it is -/
theorem ro_open_never_writes (d : Disk C) (force : Bool) : (openFile empty lib env d .readOnly force).disk = d := by
  cases d with
  | h5 r c =>
    rw [openFile_h5 empty lib env r c .readOnly nofun]
    split
    · rfl
    · rw [proceed_readOnly]; split <;> rfl
  | _ => simp [openFile, Disk.present]

/-- a ReadOnly open that succeeds shows exactly the root and the content that were there, and is not writable -/
theorem ro_open_exposes (r : Root) (c : C) (force : Bool) (s : Session C)
    (h : (openFile empty lib env (.h5 r c) .readOnly force).result = .ok s) :
    s.root = r ∧ s.content = c ∧ s.writable = false ∧ s.mode = .readOnly := by
  rw [openFile_h5 empty lib env r c .readOnly nofun] at h
  split at h
  · cases h
  · rw [proceed_readOnly] at h
    split at h <;> cases h
    exact ⟨rfl, rfl, rfl, rfl⟩

/-- the header the property asks for: the NIX format string, a three-component version the library may open in that mode,
    and an id from the id-gate version on -/
def HeaderOk (mode : FileMode) (r : Root) : Prop :=
  r.format = .value Gen.fileFormat ∧
  ∃ x y z, r.version = .value [x, y, z] ∧
    accepts lib mode ⟨x, y, z⟩ = true ∧
    (FormatVersion.ge ⟨x, y, z⟩ idGateVersion = true → ∃ i, r.id = .value i)

/-- the defect list: every way a root group can fall short of `HeaderOk` -/
inductive HeaderDefect (mode : FileMode) (r : Root) : Prop
  | formatMissing (h : r.format = .missing)
  | formatWrong (s : String) (h : r.format = .value s) (hs : s ≠ Gen.fileFormat)
  | formatUnreadable (e : Err) (h : r.format = .unreadable e)
  | versionMissing (h : r.version = .missing)
  | versionUnreadable (e : Err) (h : r.version = .unreadable e)
  | versionWrongLength (vv : List Int) (h : r.version = .value vv) (hl : vv.length ≠ 3)
  | versionNotAccepted (x y z : Int) (h : r.version = .value [x, y, z])
      (hc : accepts lib mode ⟨x, y, z⟩ = false)
  | idMissing (x y z : Int) (h : r.version = .value [x, y, z]) (hg : FormatVersion.ge ⟨x, y, z⟩ idGateVersion = true) (hi : r.id = .missing)
  | idUnreadable (x y z : Int) (h : r.version = .value [x, y, z]) (hg : FormatVersion.ge ⟨x, y, z⟩ idGateVersion = true) (e : Err)
      (hi : r.id = .unreadable e)

theorem ofList?_some_iff (vv : List Int) (fv : FormatVersion) :
    FormatVersion.ofList? vv = some fv ↔ vv = [fv.x, fv.y, fv.z] := by
  match vv with
  | [a, b, c] => cases fv; simp [FormatVersion.ofList?]
  | [] | [_] | [_, _] | _ :: _ :: _ :: _ :: _ => simp [FormatVersion.ofList?]

theorem ofList?_none_iff (vv : List Int) : FormatVersion.ofList? vv = none ↔ vv.length ≠ 3 := by
  match vv with
  | [] | [_] | [_, _] | [_, _, _] | _ :: _ :: _ :: _ :: _ => simp [FormatVersion.ofList?]

/-- the defect list is exhaustive and exact -/
theorem headerDefect_iff_not_ok (mode : FileMode) (r : Root) : HeaderDefect lib mode r ↔ ¬ HeaderOk lib mode r := by
  constructor
  · intro hd ⟨hf, x, y, z, hv, hc, hi⟩
    cases hd with
    | formatMissing h => rw [h] at hf; cases hf
    | formatWrong s h hs => rw [h] at hf; cases hf; exact hs rfl
    | formatUnreadable e h => rw [h] at hf; cases hf
    | versionMissing h => rw [h] at hv; cases hv
    | versionUnreadable e h => rw [h] at hv; cases hv
    | versionWrongLength vv h hl => rw [h] at hv; cases hv; exact hl rfl
    | versionNotAccepted x' y' z' h hc' => rw [h] at hv; cases hv; rw [hc] at hc'; cases hc'
    | idMissing x' y' z' h hg hi' =>
      rw [h] at hv; cases hv
      obtain ⟨i, hi⟩ := hi hg; rw [hi'] at hi; cases hi
    | idUnreadable x' y' z' h hg e hi' =>
      rw [h] at hv; cases hv
      obtain ⟨i, hi⟩ := hi hg; rw [hi'] at hi; cases hi
  · intro hn
    cases hf : r.format with
    | missing => exact .formatMissing hf
    | unreadable e => exact .formatUnreadable e hf
    | value s =>
      by_cases hs : s = Gen.fileFormat
      · subst hs
        cases hv : r.version with
        | missing => exact .versionMissing hv
        | unreadable e => exact .versionUnreadable e hv
        | value vv =>
          by_cases hl : vv.length = 3
          · match vv, hl with
            | [x, y, z], _ =>
              cases hc : accepts lib mode ⟨x, y, z⟩ with
              | false => exact .versionNotAccepted x y z hv hc
              | true =>
                cases hg : FormatVersion.ge ⟨x, y, z⟩ idGateVersion with
                | false => exact absurd ⟨hf, x, y, z, hv, hc, fun h => by rw [hg] at h; cases h⟩ hn
                | true =>
                  cases hi : r.id with
                  | missing => exact .idMissing x y z hv hg hi
                  | unreadable e => exact .idUnreadable x y z hv hg e hi
                  | value i => exact absurd ⟨hf, x, y, z, hv, hc, fun _ => ⟨i, hi⟩⟩ hn
          · exact .versionWrongLength vv hv hl
      · exact .formatWrong s hf hs

/-- the gate lets a header through exactly when it is what the property asks for -/
theorem gate_passes_iff (mode : FileMode) (r : Root) :
    (∃ fv, gate lib r mode = .ok (true, fv)) ↔ HeaderOk lib mode r := by
  constructor
  · rintro ⟨fv, h⟩
    unfold gate at h
    split at h <;> try cases h
    rename_i s hf
    split at h <;> try cases h
    rename_i hs
    split at h <;> try cases h
    rename_i vv hv
    split at h <;> try cases h
    rename_i fv' hl
    obtain ⟨x, y, z⟩ := fv'
    rw [(ofList?_some_iff vv _).1 hl] at hv
    refine ⟨by rw [hf, eq_of_beq hs], x, y, z, hv, ?_⟩
    cases hc : accepts lib mode ⟨x, y, z⟩ <;> cases hg : FormatVersion.ge ⟨x, y, z⟩ idGateVersion <;>
      simp only [hc, hg, Bool.and_true, Bool.and_false, Bool.false_eq_true, if_true, if_false, Except.ok.injEq, Prod.mk.injEq,
        false_and] at h
    · exact ⟨rfl, nofun⟩
    · refine ⟨rfl, fun _ => ?_⟩
      cases hi : r.id <;> simp only [hi] at h <;> first | exact ⟨_, rfl⟩ | cases h
  · rintro ⟨hf, x, y, z, hv, hc, hi⟩
    simp only [gate, hf, hv, FormatVersion.ofList?, hc, beq_self_eq_true, if_true, Bool.true_and]
    cases hg : FormatVersion.ge ⟨x, y, z⟩ idGateVersion with
    | false => exact ⟨_, rfl⟩
    | true => obtain ⟨i, hi⟩ := hi hg; rw [hi]; exact ⟨_, rfl⟩

theorem headerCheck_refuses (mode : FileMode) (r : Root) (h : ¬ HeaderOk lib mode r) :
    ∃ e, headerCheck lib r mode false = .error e := by
  unfold headerCheck
  rcases hg : gate lib r mode with e | ⟨_ | _, fv⟩
  · exact ⟨e, rfl⟩
  · exact ⟨.invalidFile, rfl⟩
  · exact absurd ((gate_passes_iff lib mode r).1 ⟨fv, hg⟩) h

/-- **bad_header_refused** — an HDF5 file whose root group shows any of the defects (missing / wrong / unreadable format, missing /
    unreadable / wrong-length / not accepted version, missing / unreadable id from 1.2.0 on — in particular a plain HDF5 file) is refused
    in ReadOnly and ReadWrite mode, and is left exactly as it was -/
theorem bad_header_refused (r : Root) (c : C) (mode : FileMode) (hm : mode ≠ .overwrite) (hd : HeaderDefect lib mode r) :
    ∃ e, openFile empty lib env (.h5 r c) mode false = ⟨.error e, .h5 r c⟩ := by
  obtain ⟨e, he⟩ := headerCheck_refuses lib mode r ((headerDefect_iff_not_ok lib mode r).1 hd)
  exact ⟨e, by rw [openFile_h5 empty lib env r c mode hm, he]⟩

/-- a plain HDF5 file (no NIX attributes at all) is refused -/
theorem plain_hdf5_refused (r : Root) (c : C) (mode : FileMode) (hm : mode ≠ .overwrite) (h : r.format = .missing) :
    openFile empty lib env (.h5 r c) mode false = ⟨.error .invalidFile, .h5 r c⟩ := by
  rw [openFile_h5 empty lib env r c mode hm]
  simp [headerCheck, gate, h]

/-- bytes that are not an HDF5 file, and a directory, are refused in ReadOnly and ReadWrite mode whatever the flags -/
theorem non_hdf5_refused (mode : FileMode) (hm : mode ≠ .overwrite) (force : Bool) :
    openFile empty lib env (.junk : Disk C) mode force = ⟨.error .h5Error, .junk⟩ ∧
    openFile empty lib env (.dir : Disk C) mode force = ⟨.error .h5Error, .dir⟩ := by
  cases mode with
  | overwrite => exact absurd rfl hm
  | _ => simp [openFile, Disk.present]

/-- a zero-byte file is refused: ReadOnly because HDF5 cannot open it, ReadWrite because the file HDF5 makes of it has no header -/
theorem empty_file_refused (mode : FileMode) (hm : mode ≠ .overwrite) :
    ∃ e, (openFile empty lib env (.empty : Disk C) mode false).result = .error e := by
  cases mode with
  | overwrite => exact absurd rfl hm
  | readOnly => exact ⟨.h5Error, by simp [openFile, Disk.present]⟩
  | readWrite => exact ⟨.invalidFile, by simp [openFile, Disk.present, headerCheck, gate, emptyRoot]⟩

/-- acceptance, completely: without Force an existing HDF5 file is opened exactly when its header is what the property asks for
    and — ReadOnly, where nothing can be added — the root group is complete -/
theorem open_accepted_iff (r : Root) (c : C) (mode : FileMode) (hm : mode ≠ .overwrite) :
    (∃ s, (openFile empty lib env (.h5 r c) mode false).result = .ok s) ↔
      (HeaderOk lib mode r ∧ (mode = .readOnly → Root.complete r = true)) := by
  rw [openFile_h5 empty lib env r c mode hm]
  by_cases hok : HeaderOk lib mode r
  · obtain ⟨fv, hg⟩ := (gate_passes_iff lib mode r).2 hok
    have hc : headerCheck lib r mode false = .ok fv := by simp [headerCheck, hg]
    rw [hc]
    simp only [hok, true_and]
    cases mode with
    | overwrite => exact absurd rfl hm
    | readOnly => rw [proceed_readOnly]; cases Root.complete r <;> simp
    | readWrite => rw [proceed_writable env .readWrite (by decide)]; simp
  · obtain ⟨e, he⟩ := headerCheck_refuses lib mode r hok
    rw [he]; simp [hok]

/-- **force_skips_only_the_gate** — on an existing HDF5 file the Force flag changes exactly one thing: a header the gate rejects
    (`check = false`) no longer throws InvalidFile; exceptions raised while reading the attributes, and everything after the gate
    (root groups and time stamps, which a ReadOnly file cannot add), are as without it -/
theorem force_skips_only_the_gate (r : Root) (c : C) (mode : FileMode) (hm : mode ≠ .overwrite) :
    match gate lib r mode with
    | .error e => ∀ force, openFile empty lib env (.h5 r c) mode force = ⟨.error e, .h5 r c⟩
    | .ok (true, fv) => ∀ force, openFile empty lib env (.h5 r c) mode force = proceed env mode fv r c
    | .ok (false, fv) =>
        openFile empty lib env (.h5 r c) mode false = ⟨.error .invalidFile, .h5 r c⟩ ∧
        openFile empty lib env (.h5 r c) mode true = proceed env mode fv r c := by
  simp only [openFile_h5 empty lib env r c mode hm, headerCheck]
  rcases gate lib r mode with e | ⟨_ | _, fv⟩ <;> simp

/-- where there is no header gate (nothing at the path, a directory, non-HDF5 bytes; Overwrite on anything) Force changes nothing -/
theorem force_irrelevant_without_gate (d : Disk C) (mode : FileMode)
    (h : mode = .overwrite ∨ d = .missing ∨ d = .dir ∨ d = .junk) :
    openFile empty lib env d mode true = openFile empty lib env d mode false := by
  rcases h with rfl | rfl | rfl | rfl
  · cases d <;> simp [openFile, Disk.present]
  all_goals cases mode <;> simp [openFile, Disk.present]

/-- Force does not make a ReadOnly open write: a plain HDF5 file stays refused (its root groups cannot be added) and untouched -/
theorem force_ro_plain_still_refused (c : C) :
    openFile empty lib env (.h5 emptyRoot c) .readOnly true = ⟨.error .h5Error, .h5 emptyRoot c⟩ := by
  simp [openFile, Disk.present, headerCheck, gate, emptyRoot, proceed, rootSteps, ensure]

def freshRoot : Root :=
  { format := .value Gen.fileFormat, version := .value [lib.x, lib.y, lib.z], id := .value env.freshId,
    hasMetadata := true, hasData := true, createdAt := some env.now, updatedAt := some env.now }

/-- **overwrite_empty** — Overwrite on anything but a directory yields a writable session on an empty, valid NIX file: the format
    string, the library's version, a fresh id, both container groups, no content; whatever was there before and whatever the flags -/
theorem overwrite_empty (d : Disk C) (hd : d ≠ .dir) (force : Bool) :
    openFile empty lib env d .overwrite force =
      ⟨.ok { mode := .overwrite, writable := true, root := freshRoot lib env, content := empty, version := lib },
       .h5 (freshRoot lib env) empty⟩ := by
  have hr : rootSteps true env.now (createHeader lib env emptyRoot) = (freshRoot lib env, none) := by
    rw [rootSteps_writable]; rfl
  cases d with
  | dir => exact absurd rfl hd
  | _ => simp [openFile, Disk.present, hr]

/-- the fresh header passes the gate of the same library in every mode: what Overwrite leaves can be reopened -/
theorem freshRoot_headerOk (mode : FileMode) : HeaderOk lib mode (freshRoot lib env) := by
  refine ⟨rfl, lib.x, lib.y, lib.z, rfl, ?_, fun _ => ⟨env.freshId, rfl⟩⟩
  cases lib
  unfold accepts
  split <;> simp [FormatVersion.canWrite, FormatVersion.canRead, FormatVersion.eq]

/-- ReadWrite "creates it if absent": on a missing path ReadWrite behaves as Overwrite (and reports Overwrite as its mode) -/
theorem rw_missing_creates (force : Bool) :
    openFile empty lib env (.missing : Disk C) .readWrite force = openFile empty lib env (.missing : Disk C) .overwrite force := by
  simp [openFile, Disk.present]

/-- **rw_preserves** — a ReadWrite open that succeeds shows the content that was there; of the root group only what was missing
    (container groups, time stamps) is added: format, version and id attributes are as before -/
theorem rw_preserves (r : Root) (c : C) (force : Bool) (s : Session C) (d' : Disk C)
    (h : openFile empty lib env (.h5 r c) .readWrite force = ⟨.ok s, d'⟩) :
    s.content = c ∧ s.root = completed env.now r ∧ d' = .h5 (completed env.now r) c ∧ s.writable = true ∧ s.mode = .readWrite ∧
    s.root.format = r.format ∧ s.root.version = r.version ∧ s.root.id = r.id := by
  rw [openFile_h5 empty lib env r c .readWrite nofun] at h
  split at h
  · cases h
  · rw [proceed_writable env .readWrite (by decide)] at h
    cases h
    exact ⟨rfl, rfl, rfl, rfl, rfl, rfl, rfl, rfl⟩

/-- a file the library wrote (complete root) is not changed at all by a ReadWrite open -/
theorem rw_open_of_complete_unchanged (r : Root) (c : C) (force : Bool) (hcomp : Root.complete r = true) :
    (openFile empty lib env (.h5 r c) .readWrite force).disk = .h5 r c := by
  rw [openFile_h5 empty lib env r c .readWrite nofun]
  split
  · rfl
  · rw [proceed_writable env .readWrite (by decide), completed_of_complete env.now r hcomp]

/-! ### read-only sessions: every entry point, as a program over HDF5 calls -/

variable {σ W R A β : Type} (P : Prim σ W R A)

/-- **ro_never_writes** — on a file opened read-only no entry point, whatever it is made of, changes the store -/
theorem ro_never_writes (p : Prog W R A β) (s : σ) : (run P false p s).2 = s := by
  induction p generalizing s with
  | ret b => rfl
  | fail e => rfl
  | read r k ih => simp only [run]; exact ih _ s
  | write w k ih => simp [run]

/-- **ro_mutators_fail** — an entry point that changes the store when the file is writable ends with an exception when the same
    file is opened read-only -/
theorem ro_mutators_fail (p : Prog W R A β) (s : σ) (h : (run P true p s).2 ≠ s) : ∃ e, (run P false p s).1 = .error e := by
  induction p generalizing s with
  | ret b => exact absurd rfl h
  | fail e => exact absurd rfl h
  | read r k ih => simp only [run] at h ⊢; exact ih _ s h
  | write w k ih => exact ⟨_, rfl⟩

/-- until its first modifying call an entry point behaves the same in both modes: when the read-only run returns, it has met
    none, and the writable run returns the same answer and leaves the store as it is -/
theorem ro_answer_agrees (p : Prog W R A β) (s : σ) (b : β) (h : (run P false p s).1 = .ok b) : run P true p s = (.ok b, s) := by
  induction p generalizing s with
  | ret b' => simp only [run] at h ⊢; cases h; rfl
  | fail e => simp [run] at h
  | read r k ih => simp only [run] at h ⊢; exact ih _ s h
  | write w k ih => simp [run] at h

/-- createBlock / createSection on a read-only file: always an exception, never a change — for every name and type -/
theorem createEntity_ro_refused (g : Where) (name type : String) (s : FileStore) :
    (∃ e, (run filePrim false (createEntity g env name type) s).1 = .error e) ∧
    (run filePrim false (createEntity g env name type) s).2 = s := by
  refine ⟨?_, ro_never_writes filePrim _ s⟩
  -- every path ends in a `fail` or at its first `write`
  unfold createEntity
  split
  · exact ⟨_, rfl⟩
  · split
    · exact ⟨_, rfl⟩
    · simp only [run]; split <;> exact ⟨_, rfl⟩

/-- deleteBlock / deleteSection on a read-only file: an exception exactly when the entity exists (else `false`), never a change -/
theorem deleteEntity_ro (g : Where) (key : String) (s : FileStore) :
    (run filePrim false (deleteEntity g key) s).2 = s ∧
    ((findByNameOrId (s.group g) key).isSome → ∃ e, (run filePrim false (deleteEntity g key) s).1 = .error e) ∧
    ((findByNameOrId (s.group g) key) = none → (run filePrim false (deleteEntity g key) s).1 = .ok false) := by
  refine ⟨ro_never_writes filePrim _ s, ?_, ?_⟩
  · intro h
    unfold deleteEntity
    simp only [run, filePrim]
    cases hf : findByNameOrId (s.group g) key with
    | none => rw [hf] at h; cases h
    | some e =>
      cases g with
      | data => exact ⟨_, rfl⟩
      | metadata =>
        -- the first write removes a child section or, if there is none, the links
        dsimp only
        cases e.subsections <;> exact ⟨_, rfl⟩
  · intro h
    unfold deleteEntity
    simp [run, filePrim, h]

theorem force_calls_ro_refused (t : Nat) (s : FileStore) :
    run filePrim false (forceId env) s = (.error .h5Error, s) ∧
    run filePrim false (forceUpdatedAt env) s = (.error .h5Error, s) ∧
    run filePrim false (forceCreatedAt t) s = (.error .h5Error, s) :=
  ⟨rfl, rfl, rfl⟩

def exStore : FileStore :=
  { root := { format := .value "nix", version := .value [1, 2, 0], id := .value "f", hasMetadata := true, hasData := true,
              createdAt := some 1, updatedAt := some 1 },
    blocks := [{ name := "b", id := "12345678-1234-1234-1234-123456789abc", type := "t", createdAt := 1, updatedAt := 1 }],
    sections := [{ name := "s", id := "i2", type := "t", createdAt := 1, updatedAt := 1, subsections := 2 }] }

-- a writable session does create the block, a read-only one refuses and leaves the store alone
example : (run filePrim true (createEntity .data ⟨7, "new-id"⟩ "c" "t") exStore).2.blocks.length = 2 := by decide
example : (run filePrim true (createEntity .data ⟨7, "new-id"⟩ "c" "t") exStore).1 = .ok "new-id" := by decide
example : run filePrim false (createEntity .data ⟨7, "new-id"⟩ "c" "t") exStore = (.error .h5Error, exStore) := by decide
example : (run filePrim false (createEntity .data ⟨7, "new-id"⟩ "b" "t") exStore).1 = .error .duplicateName := by decide
example : (run filePrim true (deleteEntity .data "12345678-1234-1234-1234-123456789abc") exStore).2.blocks = [] := by decide
example : (run filePrim false (deleteEntity .metadata "s") exStore).1 = .error .h5Error := by decide
example : (run filePrim false (deleteEntity .metadata "nope") exStore).1 = .ok false := by decide
-- the hypothesis of ro_mutators_fail is satisfiable
example : (run filePrim true (forceId ⟨7, "g"⟩) exStore).2 ≠ exStore := by decide
example : (openFile (C := Nat) 0 libVersion ⟨9, "n"⟩ (.h5 exStore.root 5) .readOnly false).disk = .h5 exStore.root 5 := by decide
example : ((openFile (C := Nat) 0 libVersion ⟨9, "n"⟩ (.h5 exStore.root 5) .readWrite false).result.toOption.map (·.content)) = some 5 := by decide
example : ((openFile (C := Nat) 0 libVersion ⟨9, "n"⟩ (.h5 exStore.root 5) .overwrite false).result.toOption.map (·.content)) = some 0 := by decide
example : HeaderDefect libVersion .readOnly emptyRoot := .formatMissing rfl
example : HeaderOk libVersion .readWrite exStore.root := ⟨rfl, 1, 2, 0, rfl, by decide, fun _ => ⟨"f", rfl⟩⟩
example : openFile (C := Nat) 0 libVersion ⟨9, "n"⟩ (.h5 { exStore.root with id := .missing } 5) .readOnly false
    = ⟨.error .invalidFile, .h5 { exStore.root with id := .missing } 5⟩ := by decide
example : (openFile (C := Nat) 0 libVersion ⟨9, "n"⟩ (.h5 { exStore.root with id := .missing } 5) .readOnly true).result.toOption.isSome = true := by decide
-- a zero-byte file opened ReadWrite: refused, but HDF5 has made a file of it
example : openFile (C := Nat) 0 libVersion ⟨9, "n"⟩ .empty .readWrite false = ⟨.error .invalidFile, .h5 emptyRoot 0⟩ := by decide

end Nix.C09
