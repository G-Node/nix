import NixModel.Proofs.ValidateEntities
/-
  C19 — the validator reports no error for a file whose entities satisfy the hard rules, reports at least one error for
  every entity that breaches one, and reports soft-rule breaches as warnings, never as errors.

  Proved of `Validate.validateFile` (the model of File::validate, with the loops, early exits and accumulators of checks.cpp)
  against the loop-free specification of NixModel/Spec/C19.lean (`Ent.breaches`, `Ent.soft`, `entities`, the decidable
  relation `Rel`).  All theorems hold for every file description: any number of blocks, arrays, descriptors, tags,
  references, units, ticks; any position of the breaching entity; any number of simultaneous breaches; for any ordered
  scalar type (no law of `<` is used).  `WF` is what the getters guarantee by construction (a descriptor's index is its
  position, dimensionCount() is the number of descriptors) and is checked on every description the implementation produces.
-/
namespace Nix.C19
open Nix Nix.Validate

variable {α : Type} [Scalar α]

/-- SOUNDNESS: every error is attributed to an entity of the file that breaches a hard rule. -/
theorem validator_sound (d : FileDesc α) :
    ∀ m ∈ (validateFile d).errors, ∃ e ∈ entities d, e.msgId = m.id ∧ e.breaches ≠ [] := by
  rw [validateFile_errors]
  exact report_sound (fun e _ => (ent_ids e).1) fun e _ => ent_sound e

/-- … in particular a file all of whose entities conform yields no error, whatever soft rules it breaches. -/
theorem validator_sound_conforming (d : FileDesc α) (h : Conforms d = true) : (validateFile d).errors = [] := by
  simp only [Conforms, List.all_eq_true, List.isEmpty_iff] at h
  exact List.eq_nil_iff_forall_not_mem.2 fun m hm =>
    have ⟨e, he, _, hb⟩ := validator_sound d m hm
    hb (h e he)

/-- COMPLETENESS: an entity anywhere in the file that breaches a hard rule (of whatever kind, alone or together with any
    other breaches anywhere) gets at least one error attributed to it. -/
theorem validator_complete (d : FileDesc α) (hwf : WF d = true) (e : Ent α) (he : e ∈ entities d) (hb : e.breaches ≠ []) :
    ∃ m ∈ (validateFile d).errors, m.id = e.msgId := by
  rw [validateFile_errors]
  exact report_complete (fun e _ => (ent_ids e).1) (fun e he => (ent_errors e (entWF_of_mem hwf he)).1) e he hb

/-- … counted: the errors attributed to an id are at least as many as the breaching entities carrying that id
    (entity ids are unique; dimension descriptors all carry "unknown": one error at least per breaching descriptor). -/
theorem validator_complete_count (d : FileDesc α) (hwf : WF d = true) (s : String) :
    (entities d).countP (fun e => e.msgId == s && !e.breaches.isEmpty) ≤ countId s (validateFile d).errors := by
  rw [validateFile_errors]
  exact report_count (fun e _ => (ent_ids e).1) (fun e he => (ent_errors e (entWF_of_mem hwf he)).1) s

/-- SOFT RULES: a soft breach is reported as a warning attributed to the entity … -/
theorem soft_breach_is_warned (d : FileDesc α) (e : Ent α) (he : e ∈ entities d) (hs : e.soft ≠ []) :
    ∃ m ∈ (validateFile d).warnings, m.id = e.msgId := by
  rw [validateFile_warnings]
  exact report_complete (fun e _ => (ent_ids e).2) (fun e _ => (ent_warnings e).1) e he hs

theorem soft_breach_count (d : FileDesc α) (s : String) :
    (entities d).countP (fun e => e.msgId == s && !e.soft.isEmpty) ≤ countId s (validateFile d).warnings := by
  rw [validateFile_warnings]
  exact report_count (fun e _ => (ent_ids e).2) (fun e _ => (ent_warnings e).1) s

/-- … a warning is only ever about a soft breach … -/
theorem warning_only_for_soft_breach (d : FileDesc α) :
    ∀ m ∈ (validateFile d).warnings, ∃ e ∈ entities d, e.msgId = m.id ∧ e.soft ≠ [] := by
  rw [validateFile_warnings]
  exact report_sound (fun e _ => (ent_ids e).2) fun e _ => (ent_warnings e).2

/-- … and never an error: an entity that breaches soft rules only contributes no error, and if no entity breaches a
    hard rule the file has no error at all, whatever soft rules are breached (`validator_sound_conforming`). -/
theorem soft_rules_only_warn (d : FileDesc α) :
    (∀ e : Ent α, e.breaches = [] → (entValidate e).errors = []) ∧
    (Conforms d = true → (validateFile d).errors = []) ∧
    (∀ e ∈ entities d, e.soft ≠ [] → ∃ m ∈ (validateFile d).warnings, m.id = e.msgId) ∧
    (∀ m ∈ (validateFile d).warnings, ∃ e ∈ entities d, e.msgId = m.id ∧ e.soft ≠ []) :=
  ⟨fun e h => ent_sound e h, validator_sound_conforming d, soft_breach_is_warned d, warning_only_for_soft_breach d⟩


/-- THE RELATION the driver evaluates on the implementation's answers holds of the model, for every file description
    the getters can produce. -/
theorem holds (d : FileDesc α) (hwf : WF d = true) : Rel d (validateFile d) = true := by
  -- the Boolean relation read as the propositions the theorems above state
  simp [Rel, rules, relSound, relFlagged, relSoftWarned, relWarnOnlySoft]
  exact ⟨validator_sound d, fun k _ e _ => .inr (validator_complete_count d hwf e.msgId),
    fun e _ => .inr (soft_breach_count d e.msgId), warning_only_for_soft_breach d⟩


/-! One lemma per breach kind of the property text: any block, any array / tag / feature in it, any descriptor, any
    dimension index, any reference, any unit position; whatever else is wrong in the file. -/

theorem breach_flagged (d : FileDesc α) (hwf : WF d = true) {e : Ent α} (he : e ∈ entities d) {k : Breach}
    (hk : k ∈ e.breaches) : ∃ m ∈ (validateFile d).errors, m.id = e.msgId :=
  validator_complete d hwf e he (List.ne_nil_of_mem hk)

attribute [local simp] Ent.breaches arrayBreaches dimBreaches tagBreaches featureBreaches mem_when

theorem unsorted_iff (l : List α) : unsorted l = true ↔ ∃ i, ∃ h : i + 1 < l.length, l[i + 1] < l[i] := by
  simp only [unsorted, List.any_eq_true, List.exists_mem_iff_exists_getElem, List.getElem_zip, List.getElem_tail, decide_eq_true_eq,
    List.length_zip, List.length_tail]
  -- both sides say the same of `i`; the bound is `i < min l.length (l.length - 1)` on the left
  constructor <;> exact fun ⟨i, h, hlt⟩ => ⟨i, by omega, hlt⟩

/-- number of dimension descriptors differs from the data rank -/
theorem complete_rank (d : FileDesc α) (hwf : WF d = true) {b : BlockDesc α} {a : ArrayDesc α}
    (hb : b ∈ d.blocks) (ha : a ∈ b.arrays) (h : a.dimCount ≠ .val a.shape.length) :
    ∃ m ∈ (validateFile d).errors, m.id = a.ent.id :=
  breach_flagged d hwf (mem_entities_array hb ha) (k := .rank) <| by
    simp [mt (passes_beq_iff _ _).1 h]

theorem size_breach (d : FileDesc α) (hwf : WF d = true) {b : BlockDesc α} {a : ArrayDesc α} {x : DimDesc α} {k : Breach}
    (hb : b ∈ d.blocks) (ha : a ∈ b.arrays) (hx : x ∈ a.dims) {n : Nat} (h1 : 1 ≤ x.index) (hn : a.shape[x.index - 1]? = some n)
    (hk : dataLen a.shape x = some n → k ∈ dimSizeBreach a.shape x) :
    ∃ m ∈ (validateFile d).errors, m.id = a.ent.id :=
  breach_flagged d hwf (mem_entities_array hb ha) (k := k) <| by
    have hl : dataLen a.shape x = some n := by simp [dataLen, hn, Nat.ne_of_gt h1]
    exact List.mem_append_right _ (List.mem_flatMap.2 ⟨x, hx, hk hl⟩)

/-- number of ticks differs from the length of the data along the descriptor's dimension -/
theorem complete_ticks (d : FileDesc α) (hwf : WF d = true) {b : BlockDesc α} {a : ArrayDesc α} {x : DimDesc α}
    {ticks : List α} {u : Got (Option String)} {n : Nat}
    (hb : b ∈ d.blocks) (ha : a ∈ b.arrays) (hx : x ∈ a.dims) (hkind : x.kind = .range ticks u)
    (h1 : 1 ≤ x.index) (hn : a.shape[x.index - 1]? = some n) (hne : ticks.length ≠ n) :
    ∃ m ∈ (validateFile d).errors, m.id = a.ent.id :=
  size_breach d hwf hb ha hx h1 hn (k := .ticks) fun hl => by simp [dimSizeBreach, hl, hkind, hne]

/-- number of labels (if any) differs from the data length -/
theorem complete_labels (d : FileDesc α) (hwf : WF d = true) {b : BlockDesc α} {a : ArrayDesc α} {x : DimDesc α}
    {labels n : Nat} (hb : b ∈ d.blocks) (ha : a ∈ b.arrays) (hx : x ∈ a.dims) (hkind : x.kind = .set labels)
    (h1 : 1 ≤ x.index) (hn : a.shape[x.index - 1]? = some n) (h0 : labels ≠ 0) (hne : labels ≠ n) :
    ∃ m ∈ (validateFile d).errors, m.id = a.ent.id :=
  size_breach d hwf hb ha hx h1 hn (k := .labels) fun hl => by simp [dimSizeBreach, hl, hkind, hne, h0]

/-- number of data-frame rows differs from the data length -/
theorem complete_rows (d : FileDesc α) (hwf : WF d = true) {b : BlockDesc α} {a : ArrayDesc α} {x : DimDesc α}
    {rows n : Nat} {cu : Option String} (hb : b ∈ d.blocks) (ha : a ∈ b.arrays) (hx : x ∈ a.dims) (hkind : x.kind = .frame rows cu)
    (h1 : 1 ≤ x.index) (hn : a.shape[x.index - 1]? = some n) (hne : rows ≠ n) :
    ∃ m ∈ (validateFile d).errors, m.id = a.ent.id :=
  size_breach d hwf hb ha hx h1 hn (k := .rows) fun hl => by simp [dimSizeBreach, hl, hkind, hne]

/-- unsorted ticks (messages about dimension descriptors carry the id "unknown") -/
theorem complete_unsorted (d : FileDesc α) (hwf : WF d = true) {b : BlockDesc α} {a : ArrayDesc α} {x : DimDesc α}
    {ticks : List α} {u : Got (Option String)} (hb : b ∈ d.blocks) (ha : a ∈ b.arrays) (hx : x ∈ a.dims)
    (hkind : x.kind = .range ticks u) (i : Nat) (hi : i + 1 < ticks.length) (hlt : ticks[i + 1] < ticks[i]) :
    ∃ m ∈ (validateFile d).errors, m.id = dimId :=
  breach_flagged d hwf (mem_entities_dim hb ha hx) (k := .unsorted) <| by
    simp [hkind, (unsorted_iff ticks).2 ⟨i, hi, hlt⟩]

/-- sampling interval missing or not positive -/
theorem complete_interval (d : FileDesc α) (hwf : WF d = true) {b : BlockDesc α} {a : ArrayDesc α} {x : DimDesc α}
    {si : Got α} {off : Got Bool} {u : Got (Option String)} (hb : b ∈ d.blocks) (ha : a ∈ b.arrays) (hx : x ∈ a.dims)
    (hkind : x.kind = .sampled si off u) (h : si = .threw ∨ ∃ v, si = .val v ∧ ¬ Scalar.zero < v) :
    ∃ m ∈ (validateFile d).errors, m.id = dimId :=
  breach_flagged d hwf (mem_entities_dim hb ha hx) (k := .interval) <| by
    rcases h with rfl | ⟨v, rfl, hv⟩ <;> simp [Got.passes, *]

/-- a unit of a tag or multi-tag that cannot be converted to the unit of the same dimension of a referenced array:
    any reference, any unit position -/
theorem complete_tag_units (d : FileDesc α) (hwf : WF d = true) {b : BlockDesc α} {t : TagDesc}
    (hb : b ∈ d.blocks) (ht : t ∈ b.tags ∨ t ∈ b.mtags) {rs : List (List String)} (hrs : t.refs = .val rs)
    {ref : List String} (href : ref ∈ rs) (i : Nat) {tu du : String} (htu : t.units[i]? = some tu) (hdu : ref[i]? = some du)
    (h1 : du ≠ "none") (h2 : tu ≠ "") (h3 : tu ≠ "none") (h4 : isScalable tu du = false) :
    ∃ m ∈ (validateFile d).errors, m.id = t.ent.id := by
  apply breach_flagged d hwf (mem_entities_tag hb ht (.inl rfl)) (k := .unitsNotConvertible)
  have hne : t.units ≠ [] := fun hu => by simp [hu] at htu
  have hz : (tu, du) ∈ t.units.zip ref := List.mem_iff_getElem?.2 ⟨i, by simp [List.getElem?_zip_eq_some, htu, hdu]⟩
  have hrb : refBreach t.units ref = true := List.any_eq_true.2 ⟨(tu, du), hz, by simp [pairBreach, h1, h2, h3, h4]⟩
  simpa [hrs, hne] using .inr (.inr ⟨ref, href, hrb⟩)

/-- multi-tag without positions -/
theorem complete_positions (d : FileDesc α) (hwf : WF d = true) {b : BlockDesc α} {t : TagDesc}
    (hb : b ∈ d.blocks) (ht : t ∈ b.mtags) (h : t.posSet ≠ .val true) :
    ∃ m ∈ (validateFile d).errors, m.id = t.ent.id :=
  breach_flagged d hwf (mem_entities_tag hb (.inr ht) (.inl rfl)) (k := if t.isMulti then .noPositions else .noPosition) <| by
    simp [isSet_eq_false h]

/-- feature without data -/
theorem complete_feature_data (d : FileDesc α) (hwf : WF d = true) {b : BlockDesc α} {t : TagDesc} {f : FeatureDesc}
    (hb : b ∈ d.blocks) (ht : t ∈ b.tags ∨ t ∈ b.mtags) (hf : f ∈ t.features) (h : f.dataSet ≠ .val true) :
    ∃ m ∈ (validateFile d).errors, m.id = f.id :=
  breach_flagged d hwf (mem_entities_tag hb ht (.inr ⟨f, hf, rfl⟩)) (k := .noData) <| by
    simp [isSet_eq_false h]


/-! Non-vacuity: concrete descriptions (scalar type Int), decided by the kernel. -/
namespace Example
def ent (i : String) : Named := ⟨i, "n", .val "t", .val 5⟩

/-- a conforming 3x2 array (range + sampled descriptor), non-SI array unit (soft) -/
def a0 : ArrayDesc Int :=
  { ent := ent "a0", dtypeSet := .val true, dimCount := .val 2, shape := [3, 2],
    dims := [⟨1, .range [1, 2, 2] (.val (some "ms"))⟩, ⟨2, .sampled (.val 1) (.val false) (.val none)⟩],
    unit := .val (some "foo"), polyN := .val 0, originSet := .val false }
def t0 : TagDesc := { ent := ent "t0", isMulti := false, posSet := .val true, units := ["s", "kHz"], refs := .val [["ms", "none"]], features := [] }
def p0 : PropDesc := { id := "p0", name := "p", created := .val 5, valueCount := .val 2, unit := .val none }
def conforming : FileDesc Int :=
  { blocks := [{ ent := ent "b0", arrays := [a0], mtags := [], tags := [t0], sources := [ent "o0"] }],
    sections := [{ ent := ent "s0", props := [p0] }] }

example : WF conforming = true ∧ Conforms conforming = true ∧ (entities conforming).length = 8 ∧
    (validateFile conforming).errors = [] ∧
    (validateFile conforming).warnings = [⟨"a0", .unitSI⟩, ⟨"p0", .propNoUnit⟩] := by decide +kernel

/-- 2x3x2 array: second descriptor has 4 ticks for 3 data entries and is unsorted, third has interval 0 -/
def a1 : ArrayDesc Int :=
  { ent := ent "a1", dtypeSet := .val true, dimCount := .val 3, shape := [2, 3, 2],
    dims := [⟨1, .set 0⟩, ⟨2, .range [1, 5, 3, 4] (.val none)⟩, ⟨3, .sampled (.val 0) (.val false) (.val (some "mV"))⟩],
    unit := .val none, polyN := .val 0, originSet := .val false }
/-- one descriptor for two data dimensions -/
def a2 : ArrayDesc Int :=
  { ent := ent "a2", dtypeSet := .val true, dimCount := .val 1, shape := [2, 2], dims := [⟨1, .set 2⟩],
    unit := .val none, polyN := .val 0, originSet := .val false }
/-- the witness of D19: units {mV, V} against dimensions {s, mV}: the first is not convertible, the second is -/
def t1 : TagDesc := { ent := ent "t1", isMulti := false, posSet := .val true, units := ["mV", "V"], refs := .val [["s", "mV"]],
                      features := [{ id := "f1", created := .val 5, dataSet := .val false, linkType := .val 0 }] }
def m1 : TagDesc := { ent := ent "m1", isMulti := true, posSet := .threw, units := [], refs := .val [], features := [] }
def breached : FileDesc Int :=
  { blocks := [{ ent := ent "b0", arrays := [a0], mtags := [], tags := [t0], sources := [] },
               { ent := ent "b1", arrays := [a2, a1], mtags := [m1], tags := [t1], sources := [⟨"o1", "", .val "t", .val 5⟩] }],
    sections := [] }

example : WF breached = true ∧
    (validateFile breached).errors =
      [⟨"a2", .ndims⟩, ⟨"a1", .ticksN⟩, ⟨dimId, .unsorted⟩, ⟨dimId, .interval⟩, ⟨"m1", .positions⟩, ⟨"t1", .refUnits⟩,
       ⟨"f1", .featData⟩, ⟨"o1", .name⟩] ∧
    ((entities breached).filter fun e => !e.breaches.isEmpty).map (fun e => (e.msgId, e.breaches)) =
      [("a2", [.rank]), ("a1", [.ticks]), (dimId, [.unsorted]), (dimId, [.interval]), ("m1", [.noPositions]),
       ("t1", [.unitsNotConvertible]), ("f1", [.noData]), ("o1", [.blankName])] ∧
    Rel breached (validateFile breached) = true := by decide +kernel

/-- D19 on the pinned tree: the loop as it was (`match` overwritten per unit) accepts the witness, so that
    `complete_tag_units` is false of it; the accumulating loop (the `fix:` commit) rejects it -/
example : refsLoopPinned ["mV", "V"] [["s", "mV"]] true = true ∧ tagUnitsMatchRefsUnits ["mV", "V"] [["s", "mV"]] = false ∧
    isScalable "mV" "s" = false := by decide +kernel
/-- … and a unit beyond the referenced array's dimensions reset the flag as well -/
example : refsLoopPinned ["nA", "uS", "mm"] [["km"]] true = true ∧ tagUnitsMatchRefsUnits ["nA", "uS", "mm"] [["km"]] = false := by
  decide +kernel

/-- the relation is not trivially true: it rejects a result that misses the error of a1, one that blames a conforming
    entity, one that reports a soft breach as an error, and one without the warnings -/
example : Rel breached ⟨(validateFile breached).errors.filter (·.id != "a1"), []⟩ = false ∧
    Rel conforming ⟨[⟨"t0", .refUnits⟩], (validateFile conforming).warnings⟩ = false ∧
    Rel conforming ⟨[⟨"a0", .unitSI⟩], [⟨"p0", .propNoUnit⟩]⟩ = false ∧
    Rel conforming ⟨[], []⟩ = false := by decide +kernel

/-- why `WF` is a hypothesis of completeness: the loops `break` (not `continue`) at a descriptor whose index lies beyond
    the rank, which would hide a later mismatch — here 3 ticks for 2 data entries behind a descriptor claiming index 5.
    The HDF5 backend cannot produce such a description (a descriptor's index is the position it is fetched from). -/
def notWF : ArrayDesc Int :=
  { ent := ent "x", dtypeSet := .val true, dimCount := .val 2, shape := [2, 2],
    dims := [⟨5, .set 0⟩, ⟨2, .set 3⟩],
    unit := .val none, polyN := .val 0, originSet := .val false }
example : arrayWF notWF = false ∧ arrayBreaches notWF = [.labels] ∧ (validateArray notWF).errors = [] := by decide +kernel
end Example

end Nix.C19
