import NixModel.Proofs.Unlinks
import NixModel.Proofs.OpShapes
/-
  C03 — names are unique per parent; name / id / index lookups, counts and order agree.

  A container is a group whose links are (name ↦ entity group), in creation order.  `Container s c` says what creation
  establishes for it: link names pairwise distinct and non-empty, targets are groups, their `entity_id`s pairwise distinct.  Under it, for EVERY container and EVERY index i:
    * the i-th child is found by its name (`find_by_name`, `blkFind_by_name`),
    * and by its id (`find_by_id`, `blkFind_by_id`) provided the id looks like an id and no sibling is NAMED like that id —
      a name wins over an id (`find_by_id_shadowed`), and creation refuses a name that equals a sibling's id, so with fresh
      ids the proviso holds in every reachable state;
    * count = length of the enumeration, enumeration = the children by index (by definition of the getters);
  creation appends at the end and refuses a taken name (`createBlock_appends`), deletion keeps the relative order of the
  survivors (`delete_keeps_order`).
-/
namespace Nix.St
open Store

structure Container (s : Store) (c : ObjId) : Prop where
  namesDistinct : (s.linksOf c).Pairwise (fun a b => a.1 ≠ b.1)
  namesNonEmpty : ∀ l ∈ s.linksOf c, l.1.isEmpty = false
  groups : ∀ l ∈ s.linksOf c, s.isGroupObj l.2 = true
  idsDistinct : (s.linksOf c).Pairwise (fun a b => s.attr? a.2 "entity_id" ≠ s.attr? b.2 "entity_id")

theorem Container.child {s : Store} {c : ObjId} (hc : Container s c) {n : String} {t : ObjId} (hm : (n, t) ∈ s.linksOf c) :
    s.child? c n = some t :=
  lookup_of_uniq (hc.namesDistinct.imp .inl) (hc.namesNonEmpty _ hm) hm

/-- the name wins: if a sibling IS named like the id, the lookup by id returns that sibling, not the owner of the id -/
theorem find_by_id_shadowed (s : Store) (c : ObjId) (id : String) (t' : ObjId) (hne : id.isEmpty = false)
    (hshadow : s.child? c id = some t') : s.findGroupByNameOrAttribute c "entity_id" id = some t' := by
  simp [findGroupByNameOrAttribute, hasObject, hshadow, hne]

theorem find_by_name (s : Store) (c : ObjId) (hc : Container s c) (n : String) (t : ObjId) (hm : (n, t) ∈ s.linksOf c) :
    s.findGroupByNameOrAttribute c "entity_id" n = some t :=
  find_by_id_shadowed s c n t (hc.namesNonEmpty _ hm) (hc.child hm)

theorem Container.owner {s : Store} {c : ObjId} (hc : Container s c) {a b : String × ObjId} (ha : a ∈ s.linksOf c)
    (hb : b ∈ s.linksOf c) (he : s.attr? a.2 "entity_id" = s.attr? b.2 "entity_id") : a = b :=
  List.Pairwise.forall_of_forall_of_flip (R := fun a b => s.attr? a.2 "entity_id" = s.attr? b.2 "entity_id" → a = b) (fun _ _ _ => rfl)
    (hc.idsDistinct.imp fun hne e => absurd e hne) (hc.idsDistinct.imp fun hne e => absurd e.symm hne) ha hb he

theorem Container.findByAttribute {s : Store} {c : ObjId} (hc : Container s c) {n id : String} {t : ObjId} (hm : (n, t) ∈ s.linksOf c)
    (hid : s.attr? t "entity_id" = some id) : s.findGroupByAttribute c "entity_id" id = some t :=
  findGroupByAttribute_eq hm (hc.groups _ hm) hid fun _ hl e => congrArg Prod.snd (hc.owner hl hm (e.trans hid.symm))

theorem find_by_id (s : Store) (c : ObjId) (hc : Container s c) (n id : String) (t : ObjId) (hm : (n, t) ∈ s.linksOf c)
    (hid : s.attr? t "entity_id" = some id) (huuid : looksLikeUUID id = true) (hshadow : s.child? c id = none) :
    s.findGroupByNameOrAttribute c "entity_id" id = some t :=
  (findGroup_of_no_child huuid hshadow).trans (hc.findByAttribute hm hid)

theorem count_eq_enumeration_length (s : Store) (c : Option ObjId) : countIn s c = (linkedIds s c).length := by
  cases c <;> simp [countIn, linkedIds, objectCount]

theorem enumeration_eq_by_index (s : Store) (c : Option ObjId) (i : Nat) :
    (linkedIds s c)[i]? = (nthChild s c i).map (idOf s) := by
  cases c <;> simp [linkedIds, nthChild, List.getElem?_map, Function.comp_def]

theorem nthChild_isSome_iff (s : Store) (c : Option ObjId) (i : Nat) : (nthChild s c i).isSome = true ↔ i < countIn s c := by
  cases c <;> simp [nthChild, countIn, objectCount]

theorem blkFind_by_name (s : Store) (blk p : ObjId) (kind : String) (hp : s.optGroup blk (blockContainer kind) = some p)
    (hc : Container s p) (n : String) (t : ObjId) (hm : (n, t) ∈ s.linksOf p) :
    blkFind s blk kind n "" = some t := by
  have hl : s.child? p n = some t := hc.child hm
  have hne := hc.namesNonEmpty _ hm
  have hg := hc.groups _ hm
  simp only at hne hg
  simp [blkFind, hp, hne, hasObject, hasGroup, hl, hg]

/-- the handle-based queries (`hasX(entity)`, `deleteX(entity)`): name and id together -/
theorem blkFind_by_name_and_id (s : Store) (blk p : ObjId) (kind : String) (hp : s.optGroup blk (blockContainer kind) = some p)
    (hc : Container s p) (n id : String) (t : ObjId) (hm : (n, t) ∈ s.linksOf p) (hid : s.attr? t "entity_id" = some id)
    (hidne : id.isEmpty = false) : blkFind s blk kind n id = some t := by
  have hl : s.child? p n = some t := hc.child hm
  have hne := hc.namesNonEmpty _ hm
  have hg := hc.groups _ hm
  simp only at hne hg
  simp [blkFind, hp, hne, hidne, hasObject, hasGroup, hl, hg, hid]

theorem blkFind_by_id (s : Store) (blk p : ObjId) (kind : String) (hp : s.optGroup blk (blockContainer kind) = some p)
    (hc : Container s p) (n id : String) (t : ObjId) (hm : (n, t) ∈ s.linksOf p) (hid : s.attr? t "entity_id" = some id)
    (hidne : id.isEmpty = false) (hshadow : s.child? p id = none) : blkFind s blk kind "" id = some t := by
  simp [blkFind, hp, hidne, hasObject, hshadow, hc.findByAttribute hm hid]

/-- index order is creation order: a successful create appends the new entity at the END of its container, under a name that
    no sibling had -/
theorem createBlock_appends (s : Store) (n t i c : String) (g : ObjId) (s' : Store) (h : createBlock s n t i c = (s', .ok g)) :
    s.child? dataGrp n = none ∧ (dataGrp < s.objs.length → s'.linksOf dataGrp = s.linksOf dataGrp ++ [(n, g)]) := by
  obtain ⟨⟨_, hnone⟩, he⟩ := (createBlock_shape s n t i c).of_ok h
  refine ⟨hnone, fun hlt => ?_⟩
  cases he
  simp only [named, linksOf_setAttr]
  rw [openGroupCreate_new (hasGroup_of_child_none hnone), linksOf_addLink, linksOf_alloc, if_neg (Nat.ne_of_lt hlt),
    if_pos ⟨rfl, by rw [obj?_alloc, if_neg (Nat.ne_of_lt hlt)]; exact obj?_isSome_iff.mpr hlt⟩]

/-- deleting others keeps the relative order of the survivors: the links of every group after a delete are the old links with
    some removed, in the old order -/
theorem delete_keeps_order (s : Store) (D : List ObjId) (o : ObjId) : ((s.unlinkAll D).linksOf o).Sublist (s.linksOf o) :=
  unlinkAll_sublist s D o

/-- the hypothesis `hshadow` of the id lookups is what creation protects: a new entity cannot be NAMED like the id of a
    sibling — the duplicate check of create finds the sibling through its id and refuses (kernel-checked instance).  With ids
    drawn fresh (never equal to an existing name: C12) a sibling named like an id therefore never exists. -/
example :
    let id1 := "11111111-1111-1111-1111-111111111111"
    let s1 := (createBlock (newFile "f" "0" "xnix" "[1,2,0]") "first" "xt" id1 "1").1
    (createBlock s1 id1 "xt" "22222222-2222-2222-2222-222222222222" "2").2 = .error .duplicateName := by
  decide +kernel

/-- non-vacuity of `Container` and of the lookup theorems: a file with two blocks -/
example :
    let s1 := (createBlock (newFile "f" "0" "xnix" "[1,2,0]") "first" "xt" "11111111-1111-1111-1111-111111111111" "1").1
    let s2 := (createBlock s1 "second" "xt" "22222222-2222-2222-2222-222222222222" "2").1
    s2.linksOf dataGrp = [("first", 3), ("second", 4)] ∧
    s2.findGroupByNameOrAttribute dataGrp "entity_id" "second" = some 4 ∧
    s2.findGroupByNameOrAttribute dataGrp "entity_id" "11111111-1111-1111-1111-111111111111" = some 3 := by
  decide +kernel

end Nix.St
