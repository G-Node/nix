import NixModel.Props.C05
import NixModel.Props.C01
/-
  C17 — position-based slices and DataView windows address exactly their region.
-/
open Std
namespace Nix.C17
open Nix Scalar Nix.C07 Nix.C05

section slices

variable {α : Type} [Scalar α] [IsLinearOrder α] [LawfulOrderLT α] [LawfulScalarEq α] [LawfulRounding α]

set_option linter.unusedSectionVars false in
/-- **slice_start_after_end** — a dimension whose start lies after its end is refused -/
theorem slice_start_after_end (d : DimDesc α) (s e : α) (unit : String) (rm : RangeMatch) (h : e < s) :
    sliceDim d s e unit rm = .error .stdInvalidArgument := by
  rw [sliceDim_eq]; simp [h]

/-- **slice_region_spec** — per dimension: exactly the indices whose coordinates lie in [start, end]
    (Inclusive) or [start, end) (Exclusive); only for start = end with no coordinate in the interval the single
    first index at or after start; an OutOfBounds step means the interval holds no coordinate -/
theorem slice_region_spec (d : DimDesc α) (hd : DimWF d) (s e : α) (unit : String) (rm : RangeMatch) (hse : ¬ e < s)
    (k : Option α) (hk : d.scale unit = .ok k)
    (hs : InScope d (applyScale k s)) (he : InScope d (applyScale k e))
    (hp : ∀ k', d.scaleScalar unit = .ok k' → InScope d (applyScale k' s)) :
    match sliceDim d s e unit rm with
    | .ok (o, c) =>
        (∀ i, (o ≤ i ∧ i < o + c) ↔ inRegion (axisOf d) rm (applyScale k s) (applyScale k e) i) ∨
        (beq e s = true ∧ c = 1 ∧ (∀ i, ¬ inRegion (axisOf d) rm (applyScale k s) (applyScale k e) i) ∧
          ∃ k', d.scaleScalar unit = .ok k' ∧ isFirstAtOrAfter (axisOf d) (applyScale k' s) o)
    | .error .outOfBounds =>
        (∀ i, ¬ inRegion (axisOf d) rm (applyScale k s) (applyScale k e) i) ∧
        (beq e s = false ∨ ∃ k', d.scaleScalar unit = .ok k' ∧ ∀ i, (axisOf d).valid i → ¬ applyScale k' s ≤ (axisOf d).coord i)
    | .error _ => True := by
  rw [sliceDim_eq]
  simp only [hse, if_false]
  exact dimOffsetCount_spec d hd s e (beq e s) unit rm k hk hs he hp

set_option linter.unusedSectionVars false in
/-- the loop argument of a dimension for which both start and end are given is what the caller passed -/
theorem slice_arg_given (t : SliceIn α) (i : Nat) (d : DimDesc α) (hd : t.dims[i]? = some d) (s e : α)
    (hs : t.starts[i]? = some s) (he : t.ends[i]? = some e) :
    t.arg i = .ok (d, s, e, (match t.units[i]? with | some u => u | none => d.unitOrNone), t.rm) := by
  unfold SliceIn.arg
  simp [hd, hs, he]
  rfl

omit [IsLinearOrder α] [LawfulOrderLT α] [LawfulScalarEq α] [LawfulRounding α] in
/-- **slice_arg_unspecified** — a dimension with neither start nor end is filled in with its first and last
    coordinate and matched inclusively, whatever the requested RangeMatch -/
theorem slice_arg_unspecified (t : SliceIn α) (i : Nat) (d : DimDesc α) (hd : t.dims[i]? = some d)
    (hs : t.starts[i]? = none) (he : t.ends[i]? = none) (hfill : t.needFill = true) (fs fe : α)
    (h1 : fillStart d = .ok fs) (h2 : fillEnd d ((t.shape[i]?).getD 0) = .ok fe) :
    t.arg i = .ok (d, fs, fe,
      (if (t.units[i]?).isSome && (match d with | .sampled .. => true | .range .. => true | _ => false) then d.unitOrNone
       else match t.units[i]? with | some u => u | none => d.unitOrNone), .inclusive) := by
  unfold SliceIn.arg
  simp only [hd, hs, he, hfill, h1, h2, if_true, Option.isNone_none, Option.isSome_none, Bool.true_and, bne_self_eq_false, Bool.false_and]
  cases hu : t.units[i]? <;> cases d <;> simp

set_option linter.unusedSectionVars false in
/-- a dimension with neither start nor end is filled in in the unit of the dimension, whatever unit the caller gave for it
    (D56: the filled-in bounds of a sampled / range dimension were rescaled with the given unit) -/
theorem slice_arg_unspecified_own_unit (t : SliceIn α) (i : Nat) (d : DimDesc α) (hd : t.dims[i]? = some d)
    (hs : t.starts[i]? = none) (he : t.ends[i]? = none) (hfill : t.needFill = true) (fs fe : α)
    (h1 : fillStart d = .ok fs) (h2 : fillEnd d ((t.shape[i]?).getD 0) = .ok fe)
    (hk : (match d with | .sampled .. => true | .range .. => true | _ => false) = true) :
    t.arg i = .ok (d, fs, fe, d.unitOrNone, .inclusive) := by
  rw [slice_arg_unspecified t i d hd hs he hfill fs fe h1 h2]
  cases d with
  | sampled | range => cases t.units[i]? <;> rfl
  | set | frame => cases hk

/-- … and such a dimension is returned in full (no unit conversion on its own unit: `scale = none`) -/
theorem slice_unspecified_full (d : DimDesc α) (hwf : DimWF d) (n : Nat) (hn : 1 ≤ n) (hcov : (axisOf d).valid (n - 1))
    (unit : String) (hk : d.scale unit = .ok none)
    (hs : InScope d ((axisOf d).coord 0)) (he : InScope d ((axisOf d).coord (n - 1)))
    (hps : ∀ k', d.scaleScalar unit = .ok k' → InScope d (applyScale k' ((axisOf d).coord 0)))
    (o c : Nat) (h : sliceDim d ((axisOf d).coord 0) ((axisOf d).coord (n - 1)) unit .inclusive = .ok (o, c)) :
    ∀ x, (o ≤ x ∧ x < o + c) ↔ x < n := by
  have hm := axisOf_strictMono d hwf
  have hse := Std.not_lt.2 ((axisOf d).mono_le hm hcov (Nat.zero_le (n - 1)))
  rw [sliceDim_eq, if_neg hse] at h
  exact dimOffsetCount_full d hwf n hn hcov _ unit hk hs he hps o c h

end slices

section views
variable {V : Type}

theorem ndGt_false_iff (a b : Idx) :
    ((List.zip a b).any fun p => decide (p.1 > p.2)) = false ↔ ∀ i (ha : i < a.length) (hb : i < b.length), a[i] ≤ b[i] := by
  simp only [List.any_eq_false, decide_eq_true_eq, Nat.not_lt]
  constructor
  · intro h i ha hb
    exact h (a[i], b[i]) (List.mem_iff_getElem.2 ⟨i, by simp only [List.length_zip]; omega, by simp⟩)
  · intro h q hq
    obtain ⟨i, hi, rfl⟩ := List.mem_iff_getElem.1 hq
    simp only [List.length_zip] at hi
    simpa using h i (by omega) (by omega)

/-- **view_oob_rejected** — a request that extends past the window in some dimension is refused with
    OutOfBounds; the array is not touched (the write returns no new array) -/
theorem view_oob_rejected (v : View) (a : NDArray V) (cnt off : Idx) (vals : List V) (hc : cnt ≠ []) (ho : off ≠ [])
    (hr1 : cnt.length = off.length) (hr2 : cnt.length = v.count.length)
    (hex : ∃ i, ∃ (h1 : i < (addIdx cnt off).length) (h2 : i < v.count.length), (addIdx cnt off)[i] > v.count[i]) :
    v.write a cnt off vals = .error .outOfBounds ∧ v.read a cnt off = .error .outOfBounds := by
  have hce : cnt.isEmpty = false := List.isEmpty_eq_false_iff.2 hc
  have hoe : off.isEmpty = false := List.isEmpty_eq_false_iff.2 ho
  have hlen : (addIdx cnt off).length = v.count.length := by simp [addIdx]; omega
  have hany : ((List.zip (addIdx cnt off) v.count).any fun p => decide (p.1 > p.2)) = true := by
    obtain ⟨i, h1, h2, hi⟩ := hex
    exact eq_true_of_ne_false fun hf => absurd ((ndGt_false_iff _ _).1 hf i h1 h2) (by omega)
  unfold View.write View.read View.transform ndGt
  simp [hce, hoe, hr1, hlen, hany]

/-- **view_read_eq_array_read_shifted** — a read through the view is the array read at window origin + offset -/
theorem view_read_eq_array_read_shifted (v : View) (a : NDArray V) (cnt off : Idx) (base : Idx)
    (h : v.transform (if cnt.isEmpty then v.count else cnt) off = .ok base) :
    v.read a cnt off = a.read (if cnt.isEmpty then v.count else cnt) base := by
  unfold View.read; simp only [h]

theorem transform_base (v : View) (cnt off base : Idx) (ho : off ≠ []) (h : v.transform cnt off = .ok base) :
    base = addIdx v.offset off ∧ cnt.length = off.length ∧ (addIdx cnt off).length = v.count.length ∧
    ((List.zip (addIdx cnt off) v.count).any fun p => decide (p.1 > p.2)) = false := by
  unfold View.transform at h
  rw [if_neg (mt List.isEmpty_iff.1 ho)] at h
  split at h
  · cases h
  rename_i hlen
  split at h
  · cases h
  · cases h
  rename_i hgt
  cases h
  unfold ndGt at hgt
  split at hgt
  · cases hgt
  rename_i hl2
  exact ⟨rfl, by simpa using hlen, by simpa using hl2, by simpa using hgt⟩

/-- a box placed at window origin + offset whose count + offset stays within the window count lies inside the window -/
theorem inBox_window (voff vcnt off cnt idx : Idx) (h1 : voff.length = vcnt.length) (h2 : off.length = vcnt.length)
    (h3 : cnt.length = vcnt.length)
    (hall : ∀ i (h1 : i < (addIdx cnt off).length) (h2 : i < vcnt.length), (addIdx cnt off)[i] ≤ vcnt[i])
    (h : inBox (addIdx voff off) cnt idx = true) : inBox voff vcnt idx = true := by
  obtain ⟨b1, b2, b⟩ := (C01.inBox_iff ..).1 h
  simp only [addIdx, List.length_zipWith, List.getElem_zipWith] at b1 b hall
  refine (C01.inBox_iff ..).2 ⟨by omega, by omega, fun i k0 k1 k2 => ?_⟩
  have := b i (by omega) (by omega) k2
  have := hall i (by omega) k1
  omega

/-- **view_write_frame** — a write through a view changes nothing outside the window -/
theorem view_write_frame (v : View) (a a' : NDArray V) (cnt off : Idx) (vals : List V) (hc : cnt ≠ []) (ho : off ≠ [])
    (hv : v.offset.length = v.count.length) (hr : v.count.length = a.shape.length)
    (h : v.write a cnt off vals = .ok a') (idx : Idx) (hout : inBox v.offset v.count idx = false) :
    a'.get idx = a.get idx := by
  unfold View.write at h
  rw [if_neg (mt List.isEmpty_iff.1 hc)] at h
  dsimp only at h
  split at h
  · cases h
  rename_i base htr
  obtain ⟨rfl, hl1, hl2, hany⟩ := transform_base v cnt off base ho htr
  have hall := (ndGt_false_iff _ _).1 hany
  simp only [addIdx, List.length_zipWith] at hl2
  have hbne : addIdx v.offset off ≠ [] := fun hnil => by
    have := congrArg List.length hnil
    have := List.length_pos_iff.mpr ho
    simp only [addIdx, List.length_zipWith, List.length_nil] at *; omega
  -- the write addresses the box (origin + offset, count), which lies inside the window
  refine C01.write_frame a a' cnt _ vals hc hbne (by omega) (by simp only [addIdx, List.length_zipWith]; omega) h idx ?_
  exact Bool.eq_false_iff.2 fun hx =>
    Bool.eq_false_iff.1 hout (inBox_window v.offset v.count off cnt idx hv (by omega) (by omega) hall hx)

end views

end Nix.C17
