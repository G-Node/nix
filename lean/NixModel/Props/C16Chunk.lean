import NixModel.Chunking
/-
  C16 / C01 — `DataSet::guessChunking` terminates and hands HDF5 a usable chunk shape, for EVERY shape.

  The C++ loop is `while (true)` with two breaks; it is entered on every creation of a data array, data frame or property.  Here:
  whatever the floating-point test on the byte count answers, the loop leaves through a break after at most `mu n c * n` iterations (`mu n c`: the sum of `extent - 1` over the `n` dimensions;
  `guess_loop_terminates`: in each round of `n` iterations every extent above 1 is halved, so after `mu n c` rounds all extents are 1,
  the element count is 1 and the first break fires) — also when the element count wraps around 2^64 on the way; and the loop only
  ever halves (`iter_bounds`: every extent of the result is at least 1 and at most what it was), so no chunk extent is 0.
-/
namespace Nix.Chunk

theorem halve_lt {x : Nat} (h : 1 < x) : halve x - 1 < x - 1 := by
  unfold halve; simp [h]; omega

theorem halve_le (x : Nat) : halve x ≤ x := by
  unfold halve; split <;> omega

theorem halve_pos {x : Nat} (h : 1 ≤ x) : 1 ≤ halve x := by
  unfold halve; split <;> omega

theorem upd_pre (c : Nat → Nat) (k : Nat) : upd (pre k c) k = pre (k + 1) c := by
  funext j
  simp only [upd, pre]
  by_cases h1 : j = k
  · subst h1; simp
  · by_cases h2 : j < k
    · have : j < k + 1 := by omega
      simp [h1, h2, this]
    · have : ¬ j < k + 1 := by omega
      simp [h1, h2, this]

theorem pre_zero (c : Nat → Nat) : pre 0 c = c := by funext j; simp [pre]

theorem steps_succ (n : Nat) : ∀ (m i : Nat) (c : Nat → Nat), steps n (m + 1) i c = upd (steps n m i c) ((i + m) % n)
  | 0, _, _ => rfl
  | m + 1, i, c => by
    rw [steps, steps_succ n m (i + 1), show i + 1 + m = i + (m + 1) by omega]; rfl

def rounds (n : Nat) : Nat → (Nat → Nat) → (Nat → Nat)
  | 0, c => c
  | r + 1, c => pre n (rounds n r c)

theorem steps_rounds (n : Nat) (c : Nat → Nat) : ∀ (r k : Nat), k ≤ n → steps n (r * n + k) 0 c = pre k (rounds n r c)
  | 0, 0, _ => by rw [Nat.zero_mul, pre_zero]; rfl
  | r + 1, 0, _ => by
    rw [Nat.add_zero, Nat.add_mul, Nat.one_mul, steps_rounds n c r n (Nat.le_refl n), pre_zero]; rfl
  | r, k + 1, h => by
    have hk : (0 + (r * n + k)) % n = k := by rw [Nat.zero_add, Nat.add_comm, Nat.add_mul_mod_self_right, Nat.mod_eq_of_lt h]
    rw [← Nat.add_assoc, steps_succ, steps_rounds n c r k (by omega), hk, upd_pre]
termination_by r k => (r, k)

theorem nelms_ones : ∀ (n : Nat) (c : Nat → Nat), (∀ j, j < n → c j = 1) → nelms n c = 1
  | 0, _, _ => rfl
  | n + 1, c, h => by
    simp only [nelms]
    rw [nelms_ones n c (fun j hj => h j (by omega)), h n (by omega)]
    decide

theorem le_mu : ∀ (n : Nat) (c : Nat → Nat) (j : Nat), j < n → c j - 1 ≤ mu n c
  | n + 1, c, j, hj => by
    simp only [mu]
    by_cases hjn : j = n
    · subst hjn; omega
    · have := le_mu n c j (by omega); omega

/-- the dimensions do not interact: every round brings an extent above 1 nearer to 1, so an extent `x ≥ 1` is 1 after `x - 1` rounds -/
theorem rounds_le (n : Nat) (c : Nat → Nat) (j : Nat) (hj : j < n) (h1 : 1 ≤ c j) :
    ∀ r, 1 ≤ rounds n r c j ∧ rounds n r c j - 1 ≤ c j - 1 - r
  | 0 => ⟨h1, Nat.le_refl _⟩
  | r + 1 => by
    obtain ⟨ih1, ih⟩ := rounds_le n c j hj h1 r
    have hp : rounds n (r + 1) c j = halve (rounds n r c j) := by simp [rounds, pre, hj]
    rw [hp]
    refine ⟨halve_pos ih1, ?_⟩
    by_cases h : 1 < rounds n r c j
    · have := halve_lt h; omega
    · have := halve_le (rounds n r c j); omega

/-- **the loop terminates**: whatever the break test on the byte count says, after `mu n c` whole rounds at the latest the element
    count is 1 and the loop breaks -/
theorem loop_breaks (n : Nat) (stop : Nat → Bool) (c : Nat → Nat) (hpos : ∀ j, 1 ≤ c j) :
    brk n stop (steps n (mu n c * n) 0 c) = true := by
  rw [← Nat.add_zero (mu n c * n), steps_rounds n c _ 0 (Nat.zero_le n), pre_zero]
  simp only [brk, Bool.or_eq_true, beq_iff_eq]
  left
  refine nelms_ones n _ fun j hj => ?_
  have := rounds_le n c j hj (hpos j) (mu n c)
  have := le_mu n c j hj
  omega

/-- the bounded loop leaves through a break as soon as the unbounded one would, and more iterations than that change nothing -/
theorem iter_of_steps (n : Nat) (stop : Nat → Bool) : ∀ (fuel i : Nat) (c : Nat → Nat) (m : Nat), m ≤ fuel →
    brk n stop (steps n m i c) = true → brk n stop (iter n stop fuel i c) = true ∧ iter n stop fuel i c = iter n stop m i c
  | 0, i, c, m, hm, hb => by
    obtain rfl : m = 0 := by omega
    exact ⟨hb, rfl⟩
  | fuel + 1, i, c, m, hm, hb => by
    by_cases hc : brk n stop c = true
    · have : ∀ f, iter n stop f i c = c := fun f => by cases f <;> simp [iter, hc]
      rw [this, this]; exact ⟨hc, rfl⟩
    · cases m with
      | zero => exact absurd hb hc
      | succ m =>
        simp only [iter, if_neg hc]
        exact iter_of_steps n stop fuel (i + 1) _ m (by omega) hb

/-- **guess_loop_terminates** — the `while (true)` loop of `DataSet::guessChunking` leaves through one of its two breaks after at most
    `mu n c * n` iterations, for EVERY shape (every rank, every extent ≥ 1, element counts that wrap around 2^64 included) and every
    outcome of the floating-point test on the byte count: more iterations than that change nothing -/
theorem guess_loop_terminates (n : Nat) (stop : Nat → Bool) (c : Nat → Nat) (hpos : ∀ j, 1 ≤ c j) (fuel : Nat) (hf : mu n c * n ≤ fuel) :
    brk n stop (iter n stop fuel 0 c) = true ∧ iter n stop fuel 0 c = iter n stop (mu n c * n) 0 c :=
  iter_of_steps n stop fuel 0 c _ hf (loop_breaks n stop c hpos)

theorem upd_pos (c : Nat → Nat) (k : Nat) (h : ∀ j, 1 ≤ c j) : ∀ j, 1 ≤ upd c k j := by
  intro j; simp only [upd]; split
  · exact halve_pos (h j)
  · exact h j

theorem upd_le (c : Nat → Nat) (k j : Nat) : upd c k j ≤ c j := by
  simp only [upd]; split
  · exact halve_le _
  · exact Nat.le_refl _

/-- the loop only ever halves: every extent of the result is at least 1 and at most what it was -/
theorem iter_bounds (n : Nat) (stop : Nat → Bool) : ∀ (fuel i : Nat) (c : Nat → Nat), (∀ j, 1 ≤ c j) →
    ∀ j, 1 ≤ iter n stop fuel i c j ∧ iter n stop fuel i c j ≤ c j
  | 0, _, c, h, j => ⟨h j, Nat.le_refl _⟩
  | fuel + 1, i, c, h, j => by
    simp only [iter]
    split
    · exact ⟨h j, Nat.le_refl _⟩
    · have := iter_bounds n stop fuel (i + 1) (upd c (i % n)) (upd_pos c _ h) j
      exact ⟨this.1, Nat.le_trans this.2 (upd_le c _ j)⟩

end Nix.Chunk
