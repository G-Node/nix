import NixModel.Proofs.DimDescInv
/-
  C13 — dimension descriptors are gap-free, faithful, and aliases mirror their array.
  Property theorems about the model lean/NixModel/DimDesc.lean, for every array (rank, element type), every environment
  (unit predicate, element-type conversion, data frames) and every history of API calls.  `double` is an abstract type with the
  operations of `Scalar` and NO laws, except in `ticks_sorted_pairwise` (transitivity of `≤`).

  The statements about histories all come from `reachable`: from an array without dimensions the link names stay 1..n, the values
  valid, and the descriptors of the C++-ordered, name-keyed model, seen by position, are the specification's bookkeeping
  `shadowRun` (Spec/C13.lean).  Behind it is `step_refines` (Proofs/DimDescRefine.lean); `rel_observe` (Proofs/DimDescInv.lean)
  then gives `C13.Rel` of what the getters return.
-/
namespace Nix.C13
open Nix Nix.DimDesc

variable {α : Type} [Scalar α]

theorem reachable (env : Env α) (a0 : Arr α) (h0 : a0.dims = []) (ops : List (Op α)) :
    GapFree (run env a0 ops) ∧ Valid (run env a0 ops) ∧ toShadow (run env a0 ops) = shadowRun env (toShadow a0) ops :=
  run_invariant env ops a0 (by simp [GapFree, Arr.names, Arr.count, h0]) (fun g hg => by simp [h0] at hg)

/-- **dims_gapfree_invariant** — after every history that starts without dimensions, the link names of the `dimensions` group
    are exactly 1, 2, …, n in creation (= append) order -/
theorem dims_gapfree_invariant (env : Env α) (a0 : Arr α) (h0 : a0.dims = []) (ops : List (Op α)) :
    (run env a0 ops).names = List.range' 1 (run env a0 ops).count :=
  (reachable env a0 h0 ops).1

/-- `getDimension(i)` yields a descriptor exactly for 1 ≤ i ≤ dimensionCount; 0 and n+1 give the empty handle;
    the descriptor found is the i-th appended one -/
theorem getDimension_defined_iff (env : Env α) (a0 : Arr α) (h0 : a0.dims = []) (ops : List (Op α)) (i : Nat) :
    (((run env a0 ops).lookup i).isSome ↔ 1 ≤ i ∧ i ≤ (run env a0 ops).count) ∧
    (run env a0 ops).lookup i = (if 1 ≤ i then (run env a0 ops).dims[i - 1]? else none) := by
  have hl := lookup_gapfree (reachable env a0 h0 ops).1 i
  refine ⟨?_, hl⟩
  rw [hl]
  cases i <;> simp [Arr.count]
  omega

/-- `dimensions()` reports the indices 1..n in order -/
theorem dimensions_indices (env : Env α) (a0 : Arr α) (h0 : a0.dims = []) (ops : List (Op α)) :
    dimensionIndices (run env a0 ops) = List.range' 1 (run env a0 ops).count :=
  dimensionIndices_gapfree (reachable env a0 h0 ops).1

set_option linter.unusedSectionVars false in
/-- **createGroup_keeps_gapfree** — `createDimensionGroup(index)` with ANY index either refuses (index outside 1..count+1) or
    leaves the names a permutation of 1..n': it appends name count+1, or replaces the group of an existing name -/
theorem createGroup_keeps_gapfree (a a' : Arr α) (idx : Nat) (d : Desc α) (h : GapFreeSet a)
    (hc : a.createGroup idx d = .ok a') : GapFreeSet a' ∧ (a'.count = a.count ∨ a'.count = a.count + 1) := by
  unfold Arr.createGroup at hc
  split at hc
  · cases hc
  rename_i hidx
  cases hc
  unfold GapFreeSet at *
  rw [count_eq_length_names] at h hidx
  -- the names of `a` are 1..n without repetition; those of the result are these without `idx`, then `idx`
  have hnd : a.names.Nodup := h.nodup_iff.2 List.nodup_range'
  have hnames : Arr.names { a with dims := a.dims.filter (fun g => g.name ≠ idx) ++ [⟨idx, d⟩] } =
      a.names.erase idx ++ [idx] := by
    rw [hnd.erase_eq_filter]
    simp [Arr.names, List.filter_map, Function.comp_def]
    congr 1
  rw [count_eq_length_names, count_eq_length_names a, hnames]
  by_cases hin : idx ∈ a.names
  · -- an existing name: its group is replaced
    have hp : (a.names.erase idx ++ [idx]).Perm a.names := List.perm_append_comm.trans (List.perm_cons_erase hin).symm
    rw [hp.length_eq]
    exact ⟨hp.trans h, .inl rfl⟩
  · -- not among 1..n, hence n + 1: a group is added
    have hlast : idx = a.names.length + 1 := by rw [h.mem_iff, List.mem_range'_1] at hin; omega
    rw [List.erase_of_not_mem hin, List.length_append, List.length_singleton, List.range'_1_concat, Nat.add_comm 1, ← hlast]
    exact ⟨h.append_right _, .inr rfl⟩

/-- **alias_preconditions** — an alias is only ever created on a 1-d numeric array without dimensions whose unit, if any, is
    an SI unit or a compound of SI units; it gets index 1 -/
theorem alias_preconditions (env : Env α) (a a' : Arr α) (n : Nat) (hs : step env a .appendAlias = .ok (a', n)) :
    a.rank ≤ 1 ∧ a.numeric = true ∧ a.count = 0 ∧ (∀ u, a.unit = some u → env.isSI u = true ∨ env.isCompound u = true) ∧
    n = 1 ∧ a.ro = false := by
  simp only [step] at hs
  split at hs
  · cases hs
  rename_i hro
  cases hr : appendAlias env a with
  | error e => rw [hr] at hs; cases hs
  | ok b =>
    rw [hr] at hs; cases hs
    unfold appendAlias at hr
    split at hr
    · cases hr
    split at hr
    · cases hr
    split at hr
    · cases hr
    rename_i h1 h2 h3
    refine ⟨by omega, by simpa using h2, by omega, fun u hu => ?_, rfl, by simpa using hro⟩
    rw [hu] at hr
    simp only at hr
    split at hr
    · cases hr
    · rename_i h4; exact Bool.or_eq_true_iff.1 (by simpa only [Bool.not_eq_true, Bool.not_eq_false'] using h4)

omit [Scalar α] in
theorem index_of_map {r : Except Err (Arr α)} {k n : Nat} {a' : Arr α} (h : r.map (·, k) = .ok (a', n)) : n = k := by
  cases r <;> cases h; rfl

/-- an accepted append adds exactly the specified descriptor at the end, reports index count+1, and leaves the descriptors
    appended before where they were -/
theorem append_gets_next_index (env : Env α) (a0 : Arr α) (h0 : a0.dims = []) (ops : List (Op α)) (op : Op α) (d : Desc α)
    (a' : Arr α) (n : Nat) (hop : appendedDesc env op = some d) (hs : step env (run env a0 ops) op = .ok (a', n)) :
    n = (run env a0 ops).count + 1 ∧ a'.count = n ∧ (toShadow a').dims = (toShadow (run env a0 ops)).dims ++ [d] ∧
    getDimension env a' n = some (n, viewD env a'.label a'.unit a'.data d) := by
  have hr := step_refines env (reachable env a0 h0 ops).1 op
  unfold Refines at hr
  rw [hs, apply_append env _ op d hop] at hr
  have hd : (toShadow a').dims = (toShadow (run env a0 ops)).dims ++ [d] := congrArg Shadow.dims hr.2.1
  have hcnt : ∀ b : Arr α, b.count = (toShadow b).dims.length := fun b => (List.length_map _).symm
  have hn : n = (run env a0 ops).count + 1 := by
    cases op <;> first | (cases hop; done) | skip
    case appendAlias => have := alias_preconditions env _ a' n hs; omega
    all_goals
      simp only [step] at hs
      split at hs
      · cases hs
      · exact index_of_map hs
  subst hn
  refine ⟨rfl, by rw [hcnt a', hd, hcnt]; simp, hd, ?_⟩
  rw [getDimension_eq_expect env hr.2.2, hcnt]
  unfold Shadow.expect Shadow.get
  rw [hd]
  simp [toShadow]

/-- **dim_roundtrip (sampled)**: interval, offset (0.0 = none), unit and label ("" = none) as given -/
theorem dim_roundtrip_sampled (env : Env α) (a0 : Arr α) (h0 : a0.dims = []) (ops : List (Op α)) (si : α) (l u : String) (o : α)
    (a' : Arr α) (n : Nat) (hs : step env (run env a0 ops) (.appendSampled si l u o) = .ok (a', n)) :
    getDimension env a' n =
      some (n, .sampled si (if Scalar.beq o Scalar.zero then none else some o) (optArg u) (optArg l)) := by
  have := (append_gets_next_index env a0 h0 ops _ _ a' n rfl hs).2.2.2
  simpa [viewD] using this

/-- **dim_roundtrip (range)** -/
theorem dim_roundtrip_range (env : Env α) (a0 : Arr α) (h0 : a0.dims = []) (ops : List (Op α)) (t : List α) (l u : String)
    (a' : Arr α) (n : Nat) (hs : step env (run env a0 ops) (.appendRange t l u) = .ok (a', n)) :
    getDimension env a' n = some (n, .range false t (optArg u) (optArg l)) := by
  have := (append_gets_next_index env a0 h0 ops _ _ a' n rfl hs).2.2.2
  simpa [viewD] using this

/-- **dim_roundtrip (set)** -/
theorem dim_roundtrip_set (env : Env α) (a0 : Arr α) (h0 : a0.dims = []) (ops : List (Op α)) (labels : List String)
    (a' : Arr α) (n : Nat) (hs : step env (run env a0 ops) (.appendSet labels) = .ok (a', n)) :
    getDimension env a' n = some (n, .set labels none) := by
  have := (append_gets_next_index env a0 h0 ops _ _ a' n rfl hs).2.2.2
  rw [this]
  cases labels <;> simp [viewD]

/-- **dim_roundtrip (data frame)**: the frame of the block and the column designated by index or by name -/
theorem dim_roundtrip_frame (env : Env α) (a0 : Arr α) (h0 : a0.dims = []) (ops : List (Op α)) (f : FrameArg) (c : ColArg)
    (a' : Arr α) (n : Nat) (hs : step env (run env a0 ops) (.appendFrame f c) = .ok (a', n)) :
    getDimension env a' n =
      some (n, .frame env.frameName (resolveCol env c) (frameLabel env (resolveCol env c)) (frameUnit env (resolveCol env c))) := by
  have := (append_gets_next_index env a0 h0 ops _ _ a' n rfl hs).2.2.2
  simpa [viewD] using this

/-- **dim_roundtrip (alias)**: an alias shows the array -/
theorem dim_roundtrip_alias (env : Env α) (a0 : Arr α) (h0 : a0.dims = []) (ops : List (Op α))
    (a' : Arr α) (n : Nat) (hs : step env (run env a0 ops) .appendAlias = .ok (a', n)) :
    n = 1 ∧ getDimension env a' 1 = some (1, .range true a'.data a'.unit a'.label) := by
  have h := append_gets_next_index env a0 h0 ops _ _ a' n rfl hs
  obtain rfl : n = 1 := (alias_preconditions env _ a' n hs).2.2.2.2.1
  exact ⟨rfl, by simpa [viewD] using h.2.2.2⟩

/-- what is stored is what is read after reopening: the getters are functions of the store, which `reopen` does not touch -/
theorem reopen_preserves (env : Env α) (a : Arr α) (r : Bool) :
    observe env (next env a (.reopen r)) = observe env a := rfl

/-- **ticks_sorted_invariant** — in every reachable state the ticks of every range descriptor that is not an alias pass the
    sortedness check (no neighbours with `!(a ≤ b)`), whichever entry point stored them -/
theorem ticks_sorted_invariant (env : Env α) (a0 : Arr α) (h0 : a0.dims = []) (ops : List (Op α)) (g : Grp α)
    (hg : g ∈ (run env a0 ops).dims) (t : List α) (hb : g.d.body = .range t) : ascending t = true := by
  have hv := (reachable env a0 h0 ops).2.1 g hg
  simpa [ValidDesc, hb] using hv

theorem ascending_pairwise [Std.IsPreorder α] : ∀ (t : List α), ascending t = true → t.Pairwise (· ≤ ·)
  | [], _ => List.Pairwise.nil
  | [x], _ => by simp
  | x :: y :: rest, h => by
    simp only [ascending, Bool.and_eq_true, decide_eq_true_eq] at h
    have ih := ascending_pairwise (y :: rest) h.2
    exact List.pairwise_cons.2
      ⟨List.forall_mem_cons.2 ⟨h.1, fun z hz => Std.le_trans h.1 ((List.pairwise_cons.1 ih).1 z hz)⟩, ih⟩

theorem ticks_sorted_pairwise [Std.IsPreorder α] (env : Env α) (a0 : Arr α) (h0 : a0.dims = []) (ops : List (Op α)) (g : Grp α)
    (hg : g ∈ (run env a0 ops).dims) (t : List α) (hb : g.d.body = .range t) : t.Pairwise (· ≤ ·) :=
  ascending_pairwise t (ticks_sorted_invariant env a0 h0 ops g hg t hb)

/-- **interval_positive_invariant** — in every reachable state every sampled descriptor has `0 < interval` -/
theorem interval_positive_invariant (env : Env α) (a0 : Arr α) (h0 : a0.dims = []) (ops : List (Op α)) (g : Grp α)
    (hg : g ∈ (run env a0 ops).dims) (si : α) (off : Option α) (hb : g.d.body = .sampled si off) : Scalar.zero < si := by
  have hv := (reachable env a0 h0 ops).2.1 g hg
  simpa [ValidDesc, hb, positive] using hv

omit [Scalar α] in
/-- **alias_mirrors_array** — in every state an alias descriptor answers with the array's data, unit and label -/
theorem alias_mirrors_array (env : Env α) (a : Arr α) (i : Nat) (g : Grp α) (hl : a.lookup i = some g) (hb : g.d.body = .alias) :
    getDimension env a i = some (i, .range true a.data a.unit a.label) := by
  simp [getDimension, hl, view, hb]

/-- writes through the alias land in the array: label, unit, ticks (= data, through the element type) -/
theorem alias_write_through (env : Env α) (a : Arr α) (i : Nat) (g : Grp α) (hl : a.lookup i = some g) (hb : g.d.body = .alias)
    (hro : a.ro = false) :
    (∀ v a' n, step env a (.setLabel i v) = .ok (a', n) → a'.label = v ∧ a'.unit = a.unit ∧ a'.data = a.data ∧ a'.dims = a.dims) ∧
    (∀ v a' n, step env a (.setUnit i v) = .ok (a', n) → a'.unit = v ∧ a'.label = a.label ∧ a'.data = a.data ∧ a'.dims = a.dims) ∧
    (∀ v a' n, step env a (.setTicks i v) = .ok (a', n) →
       a'.data = v.map env.conv ∧ a'.label = a.label ∧ a'.unit = a.unit ∧ a'.dims = a.dims) := by
  refine ⟨fun v a' n hs => ?_, fun v a' n hs => ?_, fun v a' n hs => ?_⟩
  · simp only [step, hro, Bool.false_eq_true, ↓reduceIte, setLabel, withDim, hl, hb] at hs
    split at hs
    · split at hs <;> cases hs
      exact ⟨rfl, rfl, rfl, rfl⟩
    · cases hs; exact ⟨rfl, rfl, rfl, rfl⟩
  · simp only [step, hro, Bool.false_eq_true, ↓reduceIte, setUnit, withDim, hl, hb] at hs
    split at hs
    · split at hs
      · cases hs
      · split at hs <;> cases hs
        exact ⟨rfl, rfl, rfl, rfl⟩
    · cases hs; exact ⟨rfl, rfl, rfl, rfl⟩
  · simp only [step, hro, Bool.false_eq_true, ↓reduceIte, setTicks, withDim, hl, hb] at hs
    split at hs <;> cases hs
    exact ⟨rfl, rfl, rfl, rfl⟩

set_option linter.unusedVariables false in
/-- writes to the array show through the alias (its getters read the array) -/
theorem array_write_shows_in_alias (env : Env α) (a a' : Arr α) (n : Nat) (op : Op α) (hs : step env a op = .ok (a', n))
    (i : Nat) (g : Grp α) (hl : a'.lookup i = some g) (hb : g.d.body = .alias) :
    getDimension env a' i = some (i, .range true a'.data a'.unit a'.label) :=
  alias_mirrors_array env a' i g hl hb

/-- **alias_only_first** — in every reachable state an alias descriptor, if there is one, has index 1 (it can only be created on an
    array without descriptors, and no setter turns a descriptor into an alias) -/
theorem alias_only_first (env : Env α) (a0 : Arr α) (h0 : a0.dims = []) (ops : List (Op α)) (i : Nat) (g : Grp α)
    (hl : (run env a0 ops).lookup i = some g) (hb : g.d.body = .alias) : i = 1 := by
  have hr := reachable env a0 h0 ops
  have hP := shadowRun_invariant env AliasFirstS (fun s op hp hl => (keeps_apply env s op hl).2 hp) ops (toShadow a0)
    (by intro k d hk; simp [toShadow, h0] at hk)
  rw [← hr.2.2] at hP
  have hget := get_toShadow hr.1 i
  rw [hl] at hget
  cases i with
  | zero => cases hget
  | succ j => rw [hP j g.d hget (by simp [isAlias, hb])]

/-- **deleteDimensions_none** — after `deleteDimensions` on a reachable state (file writable) there is no descriptor:
    count 0 and every `getDimension(i)` is the empty handle.  (The C++ loop removes the names count..1; that this removes
    everything is the gap-free invariant.) -/
theorem deleteDimensions_none (env : Env α) (a0 : Arr α) (h0 : a0.dims = []) (ops : List (Op α))
    (hro : (run env a0 ops).ro = false) :
    ∃ a', step env (run env a0 ops) .deleteDims = .ok (a', 0) ∧ a'.count = 0 ∧ ∀ i, getDimension env a' i = none := by
  have h := (reachable env a0 h0 ops).1
  have hd : deleteLoop (run env a0 ops).count (run env a0 ops).dims = [] := deleteLoop_gapfree h
  refine ⟨{ run env a0 ops with dims := [] }, by simp [step, hro, hd], by simp [Arr.count], ?_⟩
  intro i
  simp [getDimension, Arr.lookup, findName]

/-- **refused_iff_illegal** — in a reachable state a call is accepted exactly when the file is writable and the
    specification does not classify its arguments as illegal (unsorted / empty ticks, interval not > 0, non-SI unit,
    column out of range, foreign or empty frame handle, index 0 or past the end, field of another kind, alias on a
    non-1-d / non-numeric / already described array …); a refused call changes nothing -/
theorem refused_iff_illegal (env : Env α) (a0 : Arr α) (h0 : a0.dims = []) (ops : List (Op α)) (op : Op α) :
    (match step env (run env a0 ops) op with | .ok _ => true | .error _ => false) = accepts env (toShadow (run env a0 ops)) op ∧
    (accepts env (toShadow (run env a0 ops)) op = false → next env (run env a0 ops) op = run env a0 ops) := by
  have h := (reachable env a0 h0 ops).1
  have hr := step_refines env h op
  unfold Refines at hr
  unfold next
  cases hs : step env (run env a0 ops) op with
  | error e => rw [hs] at hr; simp [hr]
  | ok r => obtain ⟨a', n⟩ := r; rw [hs] at hr; simp [hr.1]

/-- **history_roundtrip** — C13.Rel holds of what the getters answer after EVERY history: with the client's positional
    bookkeeping `shadowRun` (which never looks at the model state), dimensionCount = n, indices 1..n, getDimension(0) and
    (n+1) empty, every descriptor's getters return what was last given (also through an alias and through the array),
    ticks ascending, intervals positive, alias = array -/
theorem history_roundtrip [DecidableEq α] (env : Env α) (a0 : Arr α) (h0 : a0.dims = []) (ops : List (Op α)) :
    Rel env (shadowRun env (toShadow a0) ops) (observe env (run env a0 ops)) = true := by
  have h := reachable env a0 h0 ops
  rw [← h.2.2]
  exact rel_observe env h.1 h.2.1

/-! ### non-vacuity: concrete histories over `Int` (a lawful scalar), evaluated by the kernel -/
section examples

def envI : Env Int :=
  { conv := id, isSI := fun u => u == "mV" || u == "s", isCompound := fun u => u == "mV/s", frameName := "f",
    cols := [("c0", "mV"), ("c1", "s")], foreignCols := [("x", "ms")] }
def a0I : Arr Int := { rank := 1, numeric := true, label := none, unit := none, data := [0, 0, 0], dims := [] }

/-- legal and illegal calls of every kind -/
def histI : List (Op Int) :=
  [.appendSet ["a", "b"], .appendRange [1, 2, 2] "time" "s", .appendRange [3, 1] "" "", .appendRange [] "" "",
   .appendSampled 2 "" "mV" (-1), .appendSampled 0 "" "" 0, .appendSampled 1 "" "parsec" 0, .appendFrame .own (.idx 1),
   .appendFrame .own (.idx 2), .appendFrame .foreign (.idx 0), .appendFrame .own (.name "c0"), .appendAlias,
   .setTicks 2 [5, 7], .setTicks 2 [7, 5], .setInterval 3 4, .setInterval 3 (-4), .setLabel 1 (some "L"), .setLabel 9 (some "L"),
   .setUnit 2 none, .setOffset 3 none, .setLabels 1 (some ["x"]), .reopen true, .deleteDims, .reopen false]

def histAlias : List (Op Int) :=
  [.arrUnit (some "mV"), .appendAlias, .arrData [5, 1, 3], .setLabel 1 (some "volt"), .setTicks 1 [1, 2], .setTicks 1 [2, 1],
   .arrLabel (some "x"), .arrUnit (some "furlong"), .setUnit 1 (some "s"), .appendAlias, .arrExtent [3]]

-- 5 of the 12 appends are accepted; the names are 1..5 and the getters return what was last set
example : (run envI a0I histI).names = [1, 2, 3, 4, 5] := by decide +kernel
example : (observe envI (run envI a0I histI)).gets =
    [none, some (1, .set ["x"] (some "L")), some (2, .range false [5, 7] none (some "time")),
     some (3, .sampled 4 none (some "mV") none), some (4, .frame "f" (some 1) (.ok "c1") (.ok "s")),
     some (5, .frame "f" (some 0) (.ok "c0") (.ok "mV")), none] := by decide +kernel
example : (shadowRun envI (toShadow a0I) histI).dims.length = 5 := by decide +kernel
example : Rel envI (shadowRun envI (toShadow a0I) histI) (observe envI (run envI a0I histI)) = true := by decide +kernel
-- the relation is not trivially true: it fails when the observation is off by one descriptor
example : Rel envI (shadowRun envI (toShadow a0I) histI) (observe envI (run envI a0I (histI ++ [.appendSet []]))) = false := by
  decide +kernel
-- deleteDimensions in a writable session leaves none
example : (observe envI (run envI a0I (histI ++ [.deleteDims]))).gets = [none, none] := by decide +kernel
-- alias: both directions
example : (observe envI (run envI a0I histAlias)).gets = [none, some (1, .range true [1, 2, 0] (some "s") (some "x")), none] := by
  decide +kernel
example : (run envI a0I histAlias).data = [1, 2, 0] ∧ (run envI a0I histAlias).unit = some "s" := by decide +kernel
example : Rel envI (shadowRun envI (toShadow a0I) histAlias) (observe envI (run envI a0I histAlias)) = true := by decide +kernel
example : (match step envI { a0I with rank := 2 } .appendAlias with | .error e => some e | .ok _ => none) = some .invalidDimension := by
  decide +kernel
example : (match step envI { a0I with numeric := false } .appendAlias with | .error e => some e | .ok _ => none) = some .invalidDimension := by
  decide +kernel

end examples

end Nix.C13
