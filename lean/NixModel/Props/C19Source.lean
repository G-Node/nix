import NixModel.ValidSource
import NixModel.Proofs.ValidateLemmas
/-
  C19 — the rule tables of the model ARE the rule tables of src/valid/validate.cpp.

  For every `validate(const X &)` overload: evaluating the table the translator extracted from the source on this run
  (NixModel/Gen/ValidRules.lean) on an entity description gives exactly what the model's hand-written table
  (NixModel/Validate.lean: validateArray, validateTag, …) gives — for EVERY description.  Two steps per table: the source table,
  with its (getter, check) pairs and message texts resolved, IS a skeleton written down here (a closed computation, checked by the
  kernel: `decide +kernel`); and evaluating that skeleton is the model's table (symbolic, by `simp`).  A change of the source that moves a rule
  under another one, changes a severity, swaps two rules, drops or adds one, or changes a message makes the first step fail to
  check on the next run.
-/
namespace Nix.Validate
open Nix Nix.Gen.Valid

theorem validator_nil : validator [] = Result.empty := rfl

theorem evalSs_eq (atoms : Nat → Bool) (id : String) (ss : List SRule) :
    evalSs atoms id ss = validator (ss.map (evalS atoms id)) := by
  induction ss with
  | nil => rfl
  | cons r rs ih => rw [evalSs, ih, List.map_cons, validator_cons]

theorem evalS_must (atoms : Nat → Bool) (id : String) (i : Nat) (c : Cls) (ss : List SRule) :
    evalS atoms id (.node 0 i (some c) ss) = must (atoms i) id c (ss.map (evalS atoms id)) := by
  unfold evalS; rw [evalSs_eq]; rfl
theorem evalS_should (atoms : Nat → Bool) (id : String) (i : Nat) (c : Cls) (ss : List SRule) :
    evalS atoms id (.node 1 i (some c) ss) = should (atoms i) id c (ss.map (evalS atoms id)) := by
  unfold evalS; rw [evalSs_eq]; rfl
theorem evalS_could (atoms : Nat → Bool) (id : String) (i : Nat) (ss : List SRule) :
    evalS atoms id (.node 2 i none ss) = could (atoms i) (ss.map (evalS atoms id)) := by
  unfold evalS; rw [evalSs_eq]; rfl

variable {α : Type} [Scalar α]

-- `.node severity atom message subs`: severity 0 must, 1 should, 2 could; the atom numbers are those of the `…Idx` of ValidSource
def entitySkel : List SRule := [.node 0 0 (some .id) [], .node 0 1 (some .date) []]
def namedSkel : List SRule := [.node 0 0 (some .name) [], .node 0 1 (some .type) []]
def arraySkel : List SRule :=
  [.node 0 0 (some .dtype) [],
   .node 0 1 (some .ndims) [.node 2 2 none [.node 0 3 (some .ticksN) [], .node 0 4 (some .labelsN) [], .node 0 5 (some .rowsN) []]],
   .node 2 6 none [.node 1 7 (some .unitSI) []],
   .node 2 8 none [.node 1 9 (some .noOrigin) []],
   .node 2 9 none [.node 1 8 (some .noPoly) []]]
def tagSkel (first : Cls) : List SRule :=
  [.node 0 0 (some first) [], .node 2 1 none [.node 0 2 (some .tagUnit) [], .node 0 3 (some .refUnits) []]]
def propSkel : List SRule :=
  [.node 0 0 (some .name) [], .node 2 1 none [.node 1 2 (some .propNoUnit) []], .node 2 2 none [.node 0 3 (some .unitSI) []]]
def rangeSkel : List SRule :=
  [.node 0 0 (some .index) [], .node 0 1 (some .noTicks) [], .node 0 2 (some .dimType) [], .node 2 3 none [.node 0 4 (some .dimUnit) []],
   .node 0 5 (some .unsorted) []]
def sampledSkel : List SRule :=
  [.node 0 0 (some .index) [], .node 0 1 (some .interval) [], .node 0 2 (some .dimType) [], .node 2 3 none [.node 1 4 (some .offsetUnit) []],
   .node 2 5 none [.node 0 4 (some .dimUnit) []]]
def setSkel : List SRule := [.node 0 0 (some .index) [], .node 0 1 (some .dimType) []]
def featureSkel : List SRule := [.node 0 0 (some .featData) [], .node 0 1 (some .linkType) []]

-- `SRule` is a nested inductive type, for which `deriving DecidableEq` does not work
mutual
def SRule.decEq : (a b : SRule) → Decidable (a = b)
  | .node k i c s, .node k' i' c' s' =>
    have := SRule.decEqs s s'
    decidable_of_iff (k = k' ∧ i = i' ∧ c = c' ∧ s = s') (by rw [SRule.node.injEq])
def SRule.decEqs : (a b : List SRule) → Decidable (a = b)
  | [], [] => isTrue rfl
  | [], _ :: _ => isFalse nofun
  | _ :: _, [] => isFalse nofun
  | x :: xs, y :: ys =>
    have := SRule.decEq x y
    have := SRule.decEqs xs ys
    decidable_of_iff (x = y ∧ xs = ys) (by rw [List.cons.injEq])
end
instance : DecidableEq SRule := SRule.decEq

-- `decide +kernel`, not `rfl`: `rfl` would have the elaborator compare the message texts first, which costs as much again
theorem entity_source : compileRules entityIdx entity = some entitySkel := by decide +kernel
theorem named_source : compileRules namedIdx namedEntity = some namedSkel := by decide +kernel
theorem dataArray_source : compileRules arrayIdx dataArray = some arraySkel := by decide +kernel
theorem tag_source : compileRules tagIdx tag = some (tagSkel .pos) := by decide +kernel
theorem multiTag_source : compileRules multiTagIdx multiTag = some (tagSkel .positions) := by decide +kernel
theorem property_source : compileRules propIdx property = some propSkel := by decide +kernel
theorem rangeDimension_source : compileRules rangeIdx rangeDimension = some rangeSkel := by decide +kernel
theorem sampledDimension_source : compileRules sampledIdx sampledDimension = some sampledSkel := by decide +kernel
theorem setDimension_source : compileRules setIdx setDimension = some setSkel := by decide +kernel
theorem feature_source : compileRules featureIdx feature = some featureSkel := by decide +kernel

attribute [local simp] evalTable evalSs_eq evalS_must evalS_should evalS_could

theorem entity_skel (id : String) (created : Got Int) : evalSs (entityAtoms id created) id entitySkel = validateEntity id created := by
  simp [entitySkel, entityAtoms, validateEntity]

set_option linter.unusedSectionVars false in
theorem validateArray_is_the_source_table (a : ArrayDesc α) :
    (evalTable arrayIdx (arrayAtoms a) a.ent.id dataArray).map (·.concat (validateNamed a.ent)) = some (validateArray a) := by
  simp [dataArray_source, arraySkel, arrayAtoms, validateArray]

theorem validateNamed_is_the_source_table (e : Named) :
    (do let r ← evalTable namedIdx (namedAtoms e) e.id namedEntity
        let b ← evalTable entityIdx (entityAtoms e.id e.created) e.id entity
        pure (r.concat b)) = some (validateNamed e) := by
  simp [named_source, entity_source, namedSkel, entitySkel, namedAtoms, entityAtoms, validateNamed, validateEntity]

theorem validateTag_is_the_source_table (t : TagDesc) :
    (evalTable (if t.isMulti then multiTagIdx else tagIdx) (tagAtoms t) t.ent.id (if t.isMulti then multiTag else tag)).map
      (·.concat (validateNamed t.ent)) = some (validateTag t) := by
  cases h : t.isMulti <;> simp [h, tag_source, multiTag_source, tagSkel, tagAtoms, validateTag]

theorem validateProp_is_the_source_table (p : PropDesc) :
    (evalTable propIdx (propAtoms p) p.id property).map (·.concat (validateEntity p.id p.created)) = some (validateProp p) := by
  simp [property_source, propSkel, propAtoms, validateProp]

theorem validateRange_is_the_source_table (index : Nat) (ticks : List α) (unit : Got (Option String)) :
    evalTable rangeIdx (rangeAtoms index ticks unit) dimId rangeDimension = some (validateRange index ticks unit) := by
  simp [rangeDimension_source, rangeSkel, rangeAtoms, validateRange]

theorem validateSampled_is_the_source_table (index : Nat) (interval : Got α) (offsetSet : Got Bool) (unit : Got (Option String)) :
    evalTable sampledIdx (sampledAtoms index interval offsetSet unit) dimId sampledDimension =
      some (validateSampled index interval offsetSet unit) := by
  simp [sampledDimension_source, sampledSkel, sampledAtoms, validateSampled]

theorem validateSet_is_the_source_table (index : Nat) : evalTable setIdx (setAtoms index) dimId setDimension = some (validateSet index) := by
  simp [setDimension_source, setSkel, setAtoms, validateSet]

theorem validateFeature_is_the_source_table (f : FeatureDesc) :
    (evalTable featureIdx (featureAtoms f) f.id feature).map (·.concat (validateEntity f.id f.created)) = some (validateFeature f) := by
  simp [feature_source, featureSkel, featureAtoms, validateFeature]

/-- which base table is concatenated after each table (`result.concat(result_base)`) -/
theorem base_tables : entityBase = "" ∧ namedEntityBase = "entity" ∧ dataArrayBase = "namedEntity" ∧ tagBase = "namedEntity" ∧
    multiTagBase = "namedEntity" ∧ propertyBase = "entity" ∧ rangeDimensionBase = "" ∧ sampledDimensionBase = "" ∧
    setDimensionBase = "" ∧ featureBase = "entity" := by decide +kernel

end Nix.Validate
