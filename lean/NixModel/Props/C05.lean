import NixModel.Proofs.RegionDim
/-
  C05 — Tag retrieval returns exactly the tagged region.

  The interval is the tag's position / position+extent as converted to the dimension's unit
  (`applyScale k …`, opaque values: the statements do not depend on how the product or the sum
  rounds).  Descriptors are assumed well-formed (`DimWF`: strictly increasing coordinates) and the
  converted positions in the scope of the kernels (`InScope` — sampled: finite, below coordinate 2^62, index estimate below 2^53;
  set / data frame: below 2^64).
-/
open Std
namespace Nix.C05
open Nix Scalar Nix.C07

section
variable {α : Type} [Scalar α]

theorem mapExcept_ok {β γ ε : Type} (f : β → Except ε γ) (l : List β) (r : List γ) (h : mapExcept f l = .ok r) :
    r.length = l.length ∧ ∀ i (hi : i < l.length) (hr : i < r.length), f l[i] = .ok r[i] := by
  induction l generalizing r with
  | nil => simp only [mapExcept] at h; cases h; exact ⟨rfl, fun i hi => absurd hi (Nat.not_lt_zero i)⟩
  | cons x xs ih =>
    simp only [mapExcept] at h
    split at h
    · cases h
    rename_i y hx
    split at h
    · cases h
    rename_i ys hxs
    cases h
    obtain ⟨hl, hall⟩ := ih ys hxs
    refine ⟨by simp [hl], fun i hi hr => ?_⟩
    cases i with
    | zero => simpa using hx
    | succ j => simpa using hall j (by simpa using hi) (by simpa using hr)

/-- the loop over the dimensions as `getOffsetAndCount` runs it, for a Tag and for each row of a MultiTag -/
theorem cells_ok {ε : Type} (f : Nat → Except ε (Nat × Nat)) (n : Nat) (cells : List (Nat × Nat))
    (h : mapExcept f (List.range n) = .ok cells) :
    (cells.map (·.1)).length = n ∧ (cells.map (·.2)).length = n ∧
    ∀ i (ho : i < (cells.map (·.1)).length) (hc : i < (cells.map (·.2)).length),
      f i = .ok ((cells.map (·.1))[i], (cells.map (·.2))[i]) := by
  obtain ⟨hl, hall⟩ := mapExcept_ok _ _ _ h
  simp only [List.length_range] at hl hall
  refine ⟨by simp [hl], by simp [hl], fun i ho hc => ?_⟩
  have := hall i (by simpa [hl] using ho) (by simpa using ho)
  simp only [List.getElem_range] at this
  simp [this]

/-- structure of a successful retrieval: one loop cell per dimension, and the block lies inside the data -/
theorem tagRegion_cells (t : TagIn α) (off cnt : List Nat) (h : tagRegion t = .ok (off, cnt)) :
    ∃ maxExt, t.maxExt = .ok maxExt ∧ off.length = t.dims.length ∧ cnt.length = t.dims.length ∧
      (∀ i (ho : i < off.length) (hc : i < cnt.length), t.cell maxExt i = .ok (off[i], cnt[i])) ∧
      positionAndExtentInData t.shape off cnt = true := by
  unfold tagRegion at h
  split at h
  · cases h
  rename_i o c hoc
  split at h
  · cases h
  rename_i hin
  split at h
  · cases h
  cases h
  unfold tagOffsetCount at hoc
  split at hoc
  · cases hoc
  split at hoc
  · cases hoc
  rename_i maxExt hme
  split at hoc
  · cases hoc
  rename_i cells hcells
  cases hoc
  obtain ⟨hlo, hlc, hall⟩ := cells_ok _ _ _ hcells
  exact ⟨maxExt, hme, hlo, hlc, hall, by simpa using hin⟩

end

variable {α : Type} [Scalar α] [IsLinearOrder α] [LawfulOrderLT α] [LawfulScalarEq α] [LawfulRounding α]

/-- **tag_region_spec** — for every dimension the tag specifies: the returned block holds exactly the
    indices whose coordinate c satisfies p ≤ c ≤ p+e (Inclusive; also used when the tag has no extent) or
    p ≤ c < p+e (Exclusive); only for a zero extent with no coordinate in the interval it is instead the
    single first index at or after the position. -/
theorem tag_region_spec (t : TagIn α) (off cnt : List Nat) (h : tagRegion t = .ok (off, cnt))
    (i : Nat) (hi : i < t.specified) (d : DimDesc α) (hd : t.dims[i]? = some d) (hwf : DimWF d)
    (p : α) (hp : t.position[i]? = some p)
    (k : Option α) (hk : d.scale (t.unitAt i d) = .ok k)
    (hs : InScope d (applyScale k p)) (he : InScope d (applyScale k (add p (t.extentAt i))))
    (hps : ∀ k', d.scaleScalar (t.unitAt i d) = .ok k' → InScope d (applyScale k' p)) :
    ∃ (ho : i < off.length) (hc : i < cnt.length),
      (∀ x, (off[i] ≤ x ∧ x < off[i] + cnt[i]) ↔
          inRegion (axisOf d) t.effRm (applyScale k p) (applyScale k (add p (t.extentAt i))) x) ∨
      (beq (t.extentAt i) zero = true ∧ cnt[i] = 1 ∧
        (∀ x, ¬ inRegion (axisOf d) t.effRm (applyScale k p) (applyScale k (add p (t.extentAt i))) x) ∧
        ∃ k', d.scaleScalar (t.unitAt i d) = .ok k' ∧ isFirstAtOrAfter (axisOf d) (applyScale k' p) off[i]) := by
  obtain ⟨maxExt, _, hlo, hlc, hcells, _⟩ := tagRegion_cells t off cnt h
  have hid : i < t.dims.length := by
    have : i < min t.position.length t.dims.length := hi
    omega
  have ho : i < off.length := by omega
  have hc : i < cnt.length := by omega
  refine ⟨ho, hc, ?_⟩
  have hcell := hcells i ho hc
  unfold TagIn.cell at hcell
  rw [hd] at hcell
  simp only [hi, if_true, hp] at hcell
  have hspec := dimOffsetCount_spec d hwf p (add p (t.extentAt i)) (beq (t.extentAt i) zero) (t.unitAt i d) t.effRm k hk hs he hps
  rw [hcell] at hspec
  exact hspec

set_option linter.unusedSectionVars false in
/-- the block never reaches outside the stored data -/
theorem tag_region_inside_data (t : TagIn α) (off cnt : List Nat) (h : tagRegion t = .ok (off, cnt)) :
    positionAndExtentInData t.shape off cnt = true :=
  (tagRegion_cells t off cnt h).choose_spec.2.2.2.2

/-- **error direction** — when the loop cell of a specified dimension raises OutOfBounds, the interval holds
    no coordinate of that dimension -/
theorem tag_cell_oob_empty (t : TagIn α) (maxExt : List (α × α)) (i : Nat) (hi : i < t.specified)
    (d : DimDesc α) (hd : t.dims[i]? = some d) (hwf : DimWF d) (p : α) (hp : t.position[i]? = some p)
    (k : Option α) (hk : d.scale (t.unitAt i d) = .ok k)
    (hs : InScope d (applyScale k p)) (he : InScope d (applyScale k (add p (t.extentAt i))))
    (hps : ∀ k', d.scaleScalar (t.unitAt i d) = .ok k' → InScope d (applyScale k' p))
    (herr : t.cell maxExt i = .error .outOfBounds) :
    ∀ x, ¬ inRegion (axisOf d) t.effRm (applyScale k p) (applyScale k (add p (t.extentAt i))) x := by
  unfold TagIn.cell at herr
  rw [hd] at herr
  simp only [hi, if_true, hp] at herr
  have hspec := dimOffsetCount_spec d hwf p (add p (t.extentAt i)) (beq (t.extentAt i) zero) (t.unitAt i d) t.effRm k hk hs he hps
  rw [herr] at hspec
  exact hspec.1

/-- **tag_unspecified_dims_full** (Inclusive, which includes every tag without extent) — a dimension the tag
    does not specify is returned in full when no unit conversion applies to it -/
theorem tag_unspecified_dims_full (t : TagIn α) (off cnt : List Nat) (h : tagRegion t = .ok (off, cnt))
    (maxExt : List (α × α)) (hme : t.maxExt = .ok maxExt)
    (i : Nat) (hlt : i < t.dims.length) (hi : ¬ i < t.specified) (d : DimDesc α) (hd : t.dims[i]? = some d) (hwf : DimWF d)
    (n : Nat) (hn : 1 ≤ n) (hcov : (axisOf d).valid (n - 1))
    (hext : maxExt[i]? = some ((axisOf d).coord 0, (axisOf d).coord (n - 1)))
    (hk : d.scale (t.unitAt i d) = .ok none) (hrm : t.effRm = .inclusive)
    (hs : InScope d ((axisOf d).coord 0)) (he : InScope d ((axisOf d).coord (n - 1)))
    (hps : ∀ k', d.scaleScalar (t.unitAt i d) = .ok k' → InScope d (applyScale k' ((axisOf d).coord 0))) :
    ∃ (ho : i < off.length) (hc : i < cnt.length), ∀ x, (off[i] ≤ x ∧ x < off[i] + cnt[i]) ↔ x < n := by
  obtain ⟨maxExt', hme', hlo, hlc, hcells, _⟩ := tagRegion_cells t off cnt h
  rw [hme] at hme'
  cases hme'
  have ho : i < off.length := by omega
  have hc : i < cnt.length := by omega
  refine ⟨ho, hc, ?_⟩
  have hcell := hcells i ho hc
  unfold TagIn.cell at hcell
  rw [hd] at hcell
  simp only [hi, if_false, hext] at hcell
  exact dimOffsetCount_full d hwf n hn hcov _ _ hk hs he hps _ _ (hrm ▸ hcell)

/-- **K2 (known finding), model level** — in Exclusive mode the padded end coordinate is matched with
    `Less`, so an unspecified dimension loses its last element: a concrete witness on an integer axis -/
example :
    tagRegion ({ position := [1], extent := [1], units := [], dims := [.set 0, .set 0], shape := [4, 3], rm := .exclusive } : TagIn Int)
      = .ok ([1, 0], [1, 2]) := by decide
example :
    tagRegion ({ position := [1], extent := [1], units := [], dims := [.set 0, .set 0], shape := [4, 3], rm := .inclusive } : TagIn Int)
      = .ok ([1, 0], [2, 3]) := by decide

set_option linter.unusedSectionVars false in
/-- tagged features are cut by the same rule (the feature array takes the place of the reference);
    untagged and indexed features are returned whole -/
theorem tag_feature_dispatch (t : TagIn α) (lt : LinkType) (fdims : List (DimDesc α)) (fshape : List Nat) :
    tagFeatureRegion t lt fdims fshape =
      (match lt with
       | .tagged => tagRegion { t with dims := fdims, shape := fshape }
       | .untagged => .ok (fshape.map (fun _ => 0), fshape)
       | .indexed => .ok (fshape.map (fun _ => 0), fshape)) := by
  cases lt <;> rfl

example : DimWF (.set 5 : DimDesc Int) ∧ DimWF (.range [1, 4, 6] none : DimDesc Int) := by
  refine ⟨trivial, ?_⟩; simp [DimWF, Sorted]
example :
    tagRegion ({ position := [4], extent := [2], units := [], dims := [.range [1, 4, 6, 9] none], shape := [4], rm := .inclusive } : TagIn Int)
      = .ok ([1], [2]) := by decide
example :
    tagRegion ({ position := [4], extent := [2], units := [], dims := [.range [1, 4, 6, 9] none], shape := [4], rm := .exclusive } : TagIn Int)
      = .ok ([1], [1]) := by decide
example :
    tagRegion ({ position := [5], extent := [], units := [], dims := [.range [1, 4, 6, 9] none], shape := [4], rm := .exclusive } : TagIn Int)
      = .ok ([2], [1]) := by decide
example :
    tagRegion ({ position := [10], extent := [1], units := [], dims := [.range [1, 4, 6, 9] none], shape := [4], rm := .inclusive } : TagIn Int)
      = .error .outOfBounds := by decide

end Nix.C05
