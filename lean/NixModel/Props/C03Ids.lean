import NixModel.Proofs.IdUniq
import NixModel.Props.C03Schema
import NixModel.Props.C03
/-
  C03 / C12 — lookups by id in EVERY reachable state, ids pairwise distinct in EVERY reachable state.

  `Props/C03.lean` proves the lookup theorems under the hypothesis `Container s c` (names distinct and non-empty, children groups,
  ids distinct).  Here the lookups through `findGroupByNameOrAttribute` are proved without it, for every state a history of API calls
  can produce:
    * the schema invariant `WT` (Proofs/Roles*.lean) gives: children of a container are groups, non-empty names are distinct;
    * the id invariant `IdUniq` (Proofs/IdUniq.lean) gives: no two objects of the file carry the same id —
  provided every creating call was handed an id that is new to the file (`FreshRun`; that the generator never repeats an id is
  C12's other half, decided by the process-level checks, not by the store model).
-/
namespace Nix.St
open Store

/-- a state produced by a history of calls on a new file in which every call gets objects of the role its signature guarantees
    and every creating call an id that is new to the file -/
def ReachableFresh (s : Store) (ρ : ObjId → Role) : Prop :=
  ∃ id created format version ops, KindedRun (newFile id created format version) initRoles ops ∧
    FreshRun (newFile id created format version) ops ∧
    s = run (newFile id created format version) ops ∧ ρ = runRoles (newFile id created format version) initRoles ops

theorem ReachableFresh.reachable {s : Store} {ρ : ObjId → Role} (h : ReachableFresh s ρ) : Reachable s ρ := by
  obtain ⟨id, created, format, version, ops, hk, _, hs, hr⟩ := h
  exact ⟨id, created, format, version, ops, hk, hs, hr⟩

/-- C12: in every reachable file no two objects — entities of any kind, properties, deleted ones included — carry the same id -/
theorem ids_pairwise_distinct {s : Store} {ρ : ObjId → Role} (h : ReachableFresh s ρ) : IdUniq s := by
  obtain ⟨id, created, format, version, ops, _, hf, rfl, _⟩ := h
  exact run_idUniq _ ops (newFile_idUniq id created format version) hf

theorem findGroupByAttribute_of_idUniq (s : Store) (c : ObjId) (hU : IdUniq s) (n id : String) (t : ObjId)
    (hm : (n, t) ∈ s.linksOf c) (hg : s.isGroupObj t = true) (hid : s.attr? t "entity_id" = some id) :
    s.findGroupByAttribute c "entity_id" id = some t :=
  findGroupByAttribute_eq hm hg hid fun l _ e => hU l.2 t id e hid

/-- C03, lookup by id, for every container of every reachable file: the child that carries the id is what the lookup returns
    (unless a sibling is NAMED like that id — the name wins, `find_by_id_shadowed`; creation refuses such a name) -/
theorem lookup_by_id_finds_the_entity {s : Store} {ρ : ObjId → Role} (h : ReachableFresh s ρ) (c : ObjId) (hc : ρ c ≠ .pcont)
    (n id : String) (t : ObjId) (hm : (n, t) ∈ s.linksOf c) (hid : s.attr? t "entity_id" = some id)
    (huuid : looksLikeUUID id = true) (hshadow : s.child? c id = none) :
    s.findGroupByNameOrAttribute c "entity_id" id = some t :=
  (findGroup_of_no_child huuid hshadow).trans
    (findGroupByAttribute_of_idUniq s c (ids_pairwise_distinct h) n id t hm (children_are_groups h.reachable c hc (n, t) hm) hid)

theorem lookup_by_name_finds_the_entity {s : Store} {ρ : ObjId → Role} (h : ReachableFresh s ρ) (c : ObjId)
    (n : String) (t : ObjId) (hn : n.isEmpty = false) (hm : (n, t) ∈ s.linksOf c) :
    s.findGroupByNameOrAttribute c "entity_id" n = some t :=
  find_by_id_shadowed s c n t hn (lookup_by_name_finds_the_link h.reachable c n t hn hm)

/-- the two lookups agree: by name and by id one reaches the same child (C03's "lookups agree with one another") -/
theorem lookups_by_name_and_id_agree {s : Store} {ρ : ObjId → Role} (h : ReachableFresh s ρ) (c : ObjId) (hc : ρ c ≠ .pcont)
    (n id : String) (t : ObjId) (hn : n.isEmpty = false) (hm : (n, t) ∈ s.linksOf c) (hid : s.attr? t "entity_id" = some id)
    (huuid : looksLikeUUID id = true) (hshadow : s.child? c id = none) :
    s.findGroupByNameOrAttribute c "entity_id" n = s.findGroupByNameOrAttribute c "entity_id" id := by
  rw [lookup_by_name_finds_the_entity h c n t hn hm, lookup_by_id_finds_the_entity h c hc n id t hm hid huuid hshadow]

/-- the `idsDistinct` clause of `Container` (Props/C03.lean) for the children of one container, in every reachable file: two
    DIFFERENT children never carry the same id -/
theorem children_ids_distinct {s : Store} {ρ : ObjId → Role} (h : ReachableFresh s ρ) (c : ObjId) (a b : String × ObjId)
    (_ha : a ∈ s.linksOf c) (_hb : b ∈ s.linksOf c) (hne : a.2 ≠ b.2) (id : String) (hida : s.attr? a.2 "entity_id" = some id) :
    s.attr? b.2 "entity_id" ≠ some id :=
  fun hidb => hne (ids_pairwise_distinct h a.2 b.2 id hida hidb)

/-- the has-query of a Group by HANDLE (name and id together, `GroupHDF5::findEntityGroup`): members are linked under their id, so
    an entity whose id is not linked there is not a member — whatever another member is called (false of the pinned tree, D44:
    the lookup fell back to a scan by name and `removeTag(entity)` removed a member of the same name) -/
theorem grpFind_by_handle_needs_the_id_link (s : Store) (grp p : ObjId) (kind iname iid : String)
    (hp : s.optGroup grp (groupContainer kind) = some p) (hn : iname.isEmpty = false) (hi : iid.isEmpty = false)
    (hl : s.hasObject p iid = false) : grpFind s grp kind iname iid = none := by
  simp [grpFind, hp, hn, hi, hl]

/-- non-vacuity: a history with two blocks, an array, a deletion and a re-creation under the same name: the
    re-created array is a new object with a new id and the old id still sits on the unlinked object -/
example :
    let s0 := newFile "f" "0" "xnix" "[1,2,0]"
    let ops := [Op.createBlock "b" "xt" "11111111-1111-1111-1111-111111111111" "1",
                Op.createDataArray 3 "a" "xt" "22222222-2222-2222-2222-222222222222" "1" "Double" "[2]",
                Op.removeEntity 3 "A" "a" "",
                Op.createDataArray 3 "a" "xt" "33333333-3333-3333-3333-333333333333" "1" "Double" "[2]"]
    (run s0 ops).attr? 5 "entity_id" = some "22222222-2222-2222-2222-222222222222" ∧
    (run s0 ops).attr? 6 "entity_id" = some "33333333-3333-3333-3333-333333333333" ∧
    (run s0 ops).findGroupByNameOrAttribute 4 "entity_id" "33333333-3333-3333-3333-333333333333" = some 6 ∧
    (run s0 ops).findGroupByNameOrAttribute 4 "entity_id" "22222222-2222-2222-2222-222222222222" = none := by
  decide +kernel

end Nix.St
