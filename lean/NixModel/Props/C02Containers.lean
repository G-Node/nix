import NixModel.Gen.Containers
import NixModel.Entities
/-
  C02 — the layout the store model assumes is the layout the backend uses.  Every backend class has two constructors (for a new
  entity and for one found in the file); both open the entity's container groups by name.  `gen/extract_containers.py` reads those
  names off the source on every run.  A constructor pair that disagrees makes an entity lose a whole container across close + reopen
  (what a handle created by `create…` wrote is not where a handle from `get…` looks).
-/
namespace Nix.Containers
open Nix Nix.St Nix.Gen.Containers

-- a row of `opened`: (class, ordinal of the constructor, member, name of the group)

/-- the name under which a class opens one of its containers (first occurrence) -/
def nameIn (cls member : String) : Option String := (opened.find? fun r => r.1 == cls && r.2.2.1 == member).map (·.2.2.2)

/-- **the constructors of a class name the same containers** -/
theorem constructors_agree :
    ∀ a ∈ opened, ∀ b ∈ opened, a.1 = b.1 → a.2.2.1 = b.2.2.1 → a.2.2.2 = b.2.2.2 := by decide +kernel

/-- every container is opened by (at least) two constructors of its class -/
theorem opened_by_both_constructors :
    ∀ a ∈ opened, ∃ b ∈ opened, a.1 = b.1 ∧ a.2.2.1 = b.2.2.1 ∧ a.2.1 ≠ b.2.1 := by decide +kernel

/-- **the store model's container names are the backend's** -/
theorem model_container_names :
    nameIn "BlockHDF5" "data_array_group" = some (blockContainer "A") ∧
    nameIn "BlockHDF5" "data_frame_group" = some (blockContainer "D") ∧
    nameIn "BlockHDF5" "tag_group" = some (blockContainer "T") ∧
    nameIn "BlockHDF5" "multi_tag_group" = some (blockContainer "M") ∧
    nameIn "BlockHDF5" "groups_group" = some (blockContainer "G") ∧
    nameIn "BlockHDF5" "source_group" = some (blockContainer "O") ∧
    nameIn "GroupHDF5" "data_array_group" = some (groupContainer "A") ∧
    nameIn "GroupHDF5" "data_frame_group" = some (groupContainer "D") ∧
    nameIn "GroupHDF5" "tag_group" = some (groupContainer "T") ∧
    nameIn "GroupHDF5" "multi_tag_group" = some (groupContainer "M") ∧
    nameIn "BaseTagHDF5" "refs_group" = some "references" ∧
    nameIn "BaseTagHDF5" "feature_group" = some "features" ∧
    nameIn "EntityWithSourcesHDF5" "sources_refs" = some "sources" ∧
    nameIn "SourceHDF5" "source_group" = some "sources" ∧
    nameIn "SectionHDF5" "section_group" = some "sections" ∧
    nameIn "SectionHDF5" "property_group" = some "properties" := by decide +kernel

end Nix.Containers
