import NixModel.Proofs.SearchBfs
import NixModel.Proofs.SearchLinks
/-
  C20 — tree searches and back-reference queries equal a brute-force traversal.
  Property theorems about the model of lean/NixModel/Search.lean, for every forest, filter and depth limit.
  The brute-force side (`levels`, `level`, `firstHit`, `nodesL`) has no queue and no depth counter.
-/
namespace Nix.C20
open Nix.Search Nix.Search.Tree

variable {α : Type}

/-! ### a sample forest for the non-vacuity examples

        s1 "a"/t            s6 "b"/u
        ├─ s2 "b"/u         └─ s7 "a"/t
        │  ├─ s4 "a"/t
        │  └─ s5 "c"/u
        └─ s3 "c"/t
-/
def sec (id name type : String) (cs : List Sec) (props : List PropInfo := []) (link : Option String := none) : Sec :=
  .node { id := id, name := name, type := type, link := link, props := props } cs
def s4 : Sec := sec "s4" "a" "t" []
def s5 : Sec := sec "s5" "c" "u" []
def s2 : Sec := sec "s2" "b" "u" [s4, s5] [⟨"p3", "x"⟩, ⟨"p4", "z"⟩]
def s3 : Sec := sec "s3" "c" "t" []
def s1 : Sec := sec "s1" "a" "t" [s2, s3] [⟨"p1", "x"⟩, ⟨"p2", "y"⟩] (some "s2")
def s7 : Sec := sec "s7" "a" "t" []
def s6 : Sec := sec "s6" "b" "u" [s7]
def ids (l : List Sec) : List String := l.map (·.val.id)

/-- **findSections_eq_levelOrder** — `Section::findSections(filter, d)` lists, in level order, exactly the descendants at
    depth 1..d that the filter accepts; the start section is never a candidate. -/
theorem findSections_eq_levelOrder (f : Tree α → Bool) (maxd : Nat) (t : Tree α) :
    findSections f maxd t = (levels maxd t.children).filter f := by
  unfold findSections
  cases maxd with
  | zero => simp [levels, bfsQ_nil]
  | succ m => rw [if_pos (Nat.zero_lt_succ m), bfsQ_eq_levels f (m + 1) m 1 t.children (by omega)]

example : ids (findSections (fun _ => true) 1 s1) = ["s2", "s3"] := by rw [findSections_eq_levelOrder]; decide
example : ids (findSections (fun _ => true) 2 s1) = ["s2", "s3", "s4", "s5"] := by rw [findSections_eq_levelOrder]; decide
example : ids (findSections (Flt.sec (.name "a")) 7 s1) = ["s4"] := by rw [findSections_eq_levelOrder]; decide
example : ids (findSections (fun _ => true) 0 s1) = [] := by rw [findSections_eq_levelOrder]; decide

/-- **findSources_eq_levelOrder** — `Source::findSources(filter, d)` lists, in level order, exactly the nodes at depth
    0..d (the start source included) that the filter accepts. -/
theorem findSources_eq_levelOrder (f : Tree α → Bool) (maxd : Nat) (t : Tree α) :
    findSources f maxd t = (levels (maxd + 1) [t]).filter f := by
  unfold findSources
  exact bfsQ_eq_levels f maxd maxd 0 [t] (by omega)

example : ids (findSources (fun _ => true) 0 s1) = ["s1"] := by rw [findSources_eq_levelOrder]; decide
example : ids (findSources (fun _ => true) 1 s1) = ["s1", "s2", "s3"] := by rw [findSources_eq_levelOrder]; decide
example : ids (findSources (Flt.sec (.type "u")) 5 s1) = ["s2", "s5"] := by rw [findSources_eq_levelOrder]; decide

/-- **fileFindSections_eq_perRoot** — `File::findSections(filter, d)`: for every root section in index order the level
    order of that root's tree within depth `d` (the root itself being depth 1); nothing for `d = 0`. -/
theorem fileFindSections_eq_perRoot (f : Tree α → Bool) (maxd : Nat) (roots : List (Tree α)) :
    fileFindSections f maxd roots = roots.flatMap fun r => (levels maxd [r]).filter f := by
  unfold fileFindSections
  cases maxd with
  | zero => simp [levels]
  | succ m =>
    simp only [Nat.succ_ne_zero, if_false, Nat.add_sub_cancel]
    congr 1
    funext r
    rw [findSections_eq_levelOrder]
    by_cases h : f r <;> simp [levels, h]

example : ids (fileFindSections (fun _ => true) 2 [s1, s6]) = ["s1", "s2", "s3", "s6", "s7"] := by
  rw [fileFindSections_eq_perRoot]; decide
example : ids (fileFindSections (fun _ => true) 0 [s1, s6]) = [] := by rw [fileFindSections_eq_perRoot]; decide

/-- **blockFindSources_eq_perRoot** — `Block::findSources(filter, d)`: the searches of the root sources, one after the
    other. -/
theorem blockFindSources_eq_perRoot (f : Tree α → Bool) (maxd : Nat) (roots : List (Tree α)) :
    blockFindSources f maxd roots = roots.flatMap fun r => (levels (maxd + 1) [r]).filter f :=
  congrArg roots.flatMap (funext (findSources_eq_levelOrder f maxd))

/-- **file_find_perm_bruteforce** — a file-wide search returns exactly (as a multiset: each entity as often as it occurs,
    i.e. once) the accepted nodes within the first `d` generations of the whole forest. -/
theorem file_find_perm_bruteforce (f : Tree α → Bool) (maxd : Nat) (roots : List (Tree α)) :
    (fileFindSections f maxd roots).Perm ((levels maxd roots).filter f) := by
  rw [fileFindSections_eq_perRoot, ← List.filter_flatMap]
  exact (levels_perRoot_perm maxd roots).filter f

/-- the same for a block-wide source search (`d + 1` generations: the roots are depth 0) -/
theorem block_find_perm_bruteforce (f : Tree α → Bool) (maxd : Nat) (roots : List (Tree α)) :
    (blockFindSources f maxd roots).Perm ((levels (maxd + 1) roots).filter f) := by
  rw [blockFindSources_eq_perRoot, ← List.filter_flatMap]
  exact (levels_perRoot_perm (maxd + 1) roots).filter f

/-- **unlimited_depth_all_descendants** — with a depth limit not below the height of what hangs under the start section
    (in particular with the default `SIZE_MAX`), the search returns every accepted descendant, each exactly as often as
    it occurs in the tree. -/
theorem unlimited_depth_all_descendants (f : Tree α → Bool) (maxd : Nat) (t : Tree α) (h : heightL t.children ≤ maxd) :
    (findSections f maxd t).Perm ((nodesL t.children).filter f) :=
  search_whole (.of_eq (findSections_eq_levelOrder f maxd t)) h

theorem unlimited_depth_all_sources (f : Tree α → Bool) (maxd : Nat) (t : Tree α) (h : heightL t.children ≤ maxd) :
    (findSources f maxd t).Perm ((nodes t).filter f) := by
  have := search_whole (.of_eq (findSources_eq_levelOrder f maxd t)) (by simp [heightL, height_eq]; omega)
  simpa [nodesL] using this

theorem unlimited_depth_whole_file (f : Tree α → Bool) (maxd : Nat) (roots : List (Tree α)) (h : heightL roots ≤ maxd) :
    (fileFindSections f maxd roots).Perm ((nodesL roots).filter f) :=
  search_whole (file_find_perm_bruteforce f maxd roots) h

theorem unlimited_depth_whole_block (f : Tree α → Bool) (maxd : Nat) (roots : List (Tree α)) (h : heightL roots ≤ maxd + 1) :
    (blockFindSources f maxd roots).Perm ((nodesL roots).filter f) :=
  search_whole (block_find_perm_bruteforce f maxd roots) h


/-- a depth limit beyond the height changes nothing -/
theorem depth_beyond_height (f : Tree α → Bool) (d d' : Nat) (t : Tree α) (h : heightL t.children ≤ d) (h' : d ≤ d') :
    findSections f d' t = findSections f d t := by
  rw [findSections_eq_levelOrder, findSections_eq_levelOrder, levels_beyond_height h h']

example : ids (findSections (fun _ => true) unlimited s1) = ["s2", "s3", "s4", "s5"] ∧ ids (nodesL s1.children) = ["s2", "s4", "s5", "s3"] := by
  rw [depth_beyond_height _ 2 unlimited s1 (by decide) (by decide), findSections_eq_levelOrder]; decide

theorem fileFind_beyond_height (f : Tree α → Bool) (d d' : Nat) (roots : List (Tree α)) (h : heightL roots ≤ d) (h' : d ≤ d') :
    fileFindSections f d' roots = fileFindSections f d roots := by
  rw [fileFindSections_eq_perRoot, fileFindSections_eq_perRoot, perRoot_beyond_height f h h']

theorem blockFind_beyond_height (f : Tree α → Bool) (d d' : Nat) (roots : List (Tree α)) (h : heightL roots ≤ d + 1) (h' : d ≤ d') :
    blockFindSources f d' roots = blockFindSources f d roots := by
  rw [blockFindSources_eq_perRoot, blockFindSources_eq_perRoot, perRoot_beyond_height f h (Nat.succ_le_succ h')]

/-- **find_nodup** — if the nodes under the start have pairwise distinct keys (ids), no key occurs twice in a result. -/
theorem find_nodup {δ : Type} (k : Tree α → δ) (f : Tree α → Bool) (maxd : Nat) (t : Tree α)
    (hnd : ((nodesL t.children).map k).Nodup) : ((findSections f maxd t).map k).Nodup :=
  search_nodup (.of_eq (findSections_eq_levelOrder f maxd t)) k hnd

theorem findSources_nodup {δ : Type} (k : Tree α → δ) (f : Tree α → Bool) (maxd : Nat) (t : Tree α)
    (hnd : ((nodes t).map k).Nodup) : ((findSources f maxd t).map k).Nodup :=
  search_nodup (.of_eq (findSources_eq_levelOrder f maxd t)) k (by simpa [nodesL] using hnd)

theorem fileFind_nodup {δ : Type} (k : Tree α → δ) (f : Tree α → Bool) (maxd : Nat) (roots : List (Tree α))
    (hnd : ((nodesL roots).map k).Nodup) : ((fileFindSections f maxd roots).map k).Nodup :=
  search_nodup (file_find_perm_bruteforce f maxd roots) k hnd

theorem blockFind_nodup {δ : Type} (k : Tree α → δ) (f : Tree α → Bool) (maxd : Nat) (roots : List (Tree α))
    (hnd : ((nodesL roots).map k).Nodup) : ((blockFindSources f maxd roots).map k).Nodup :=
  search_nodup (block_find_perm_bruteforce f maxd roots) k hnd

example : ((findSections (fun _ => true) 2 s1).map fun s : Sec => s.val.id).Nodup :=
  find_nodup (fun s : Sec => s.val.id) _ 2 s1 (by decide)
example : ((fileFindSections (Flt.sec (.type "t")) unlimited [s1, s6]).map fun s : Sec => s.val.id).Nodup :=
  fileFind_nodup (fun s : Sec => s.val.id) _ _ _ (by decide)
example : (findSections (Flt.sec (.type "u")) unlimited s1).Perm [s2, s5] :=
  unlimited_depth_all_descendants _ unlimited s1 (by decide)

/-- what `metadata()` / `link()` return is a section of the file with the linked id … -/
theorem resolveSection_sound (w : World) (i : String) (s : Sec) (h : resolveSection w i = some s) :
    s ∈ nodesL w.sections ∧ s.val.id = i := by
  have := search_sound (file_find_perm_bruteforce _ _ _) (List.mem_of_mem_head? h)
  exact ⟨this.1, by simpa using this.2⟩

/-- … and it is found whenever a section with that id exists (forest not higher than `SIZE_MAX`) -/
theorem resolveSection_complete (w : World) (i : String) (hh : heightL w.sections ≤ unlimited)
    (hex : ∃ s ∈ nodesL w.sections, s.val.id = i) : (resolveSection w i).isSome = true := by
  obtain ⟨s, hs, hi⟩ := hex
  obtain ⟨y, hy⟩ := search_head (file_find_perm_bruteforce (fun s => s.val.id == i) _ _) hh hs (by simpa using hi)
  rw [resolveSection, hy]; rfl

/-- a link whose target exists in the file (which deletion guarantees: deleting a section removes every link to it) -/
def Resolves (w : World) (md : Option String) : Prop :=
  ∀ tgt, md = some tgt → ∃ s ∈ nodesL w.sections, s.val.id = tgt

/-- `MetadataFilter(sec_id)` accepts exactly the entities whose metadata link points to `sec_id` -/
theorem metaFilter_iff (w : World) (sid : String) (md : Option String) (hh : heightL w.sections ≤ unlimited)
    (hr : Resolves w md) : metaFilter w sid md = (md == some sid) := by
  unfold metaFilter
  cases md with
  | none => simp
  | some tgt =>
    obtain ⟨s, hres⟩ := Option.isSome_iff_exists.1 (resolveSection_complete w tgt hh (hr tgt rfl))
    simp [Option.bind, hres, (resolveSection_sound w tgt s hres).2]

instance (w : World) (md : Option String) : Decidable (Resolves w md) := by unfold Resolves; infer_instance

/-- what the `referring*` theorems assume of a file: every metadata link (of a block, of a data array, tag, multi-tag or
    source in it) resolves, and no forest is higher than the default depth limit reaches -/
structure SoundWorld (w : World) : Prop where
  height : heightL w.sections ≤ unlimited
  blocks : ∀ b ∈ w.blocks, Resolves w b.md
  das : ∀ b ∈ w.blocks, ∀ h ∈ b.das, Resolves w h.md
  tags : ∀ b ∈ w.blocks, ∀ h ∈ b.tags, Resolves w h.md
  mtags : ∀ b ∈ w.blocks, ∀ h ∈ b.mtags, Resolves w h.md
  srcHeight : ∀ b ∈ w.blocks, heightL b.sources ≤ unlimited + 1
  srcs : ∀ b ∈ w.blocks, ∀ s ∈ nodesL b.sources, Resolves w s.val.md

theorem filter_metaFilter {β : Type} (w : World) (hw : SoundWorld w) (sid : String) (md : β → Option String) (l : List β)
    (hr : ∀ x ∈ l, Resolves w (md x)) :
    l.filter (fun x => metaFilter w sid (md x)) = l.filter fun x => md x == some sid :=
  List.filter_congr fun x hx => metaFilter_iff w sid (md x) hw.height (hr x hx)

theorem flatMap_filter_metaFilter (w : World) (hw : SoundWorld w) (sid : String) (sel : Blk → List Holder)
    (hr : ∀ b ∈ w.blocks, ∀ h ∈ sel b, Resolves w h.md) :
    (w.blocks.flatMap fun b => (sel b).filter fun h => metaFilter w sid h.md)
      = (w.blocks.flatMap sel).filter fun h => h.md == some sid := by
  rw [← List.filter_flatMap]
  exact filter_metaFilter w hw sid _ _ fun h hh => have ⟨b, hb, hm⟩ := List.mem_flatMap.1 hh; hr b hb h hm

/-- **referring_eq_bruteforce (blocks)** -/
theorem referringBlocks_eq_bruteforce (w : World) (hw : SoundWorld w) (sid : String) :
    secReferringBlocks w sid = w.blocks.filter fun b => b.md == some sid :=
  filter_metaFilter w hw sid _ _ hw.blocks

/-- **referring_eq_bruteforce (data arrays)** — exactly the data arrays, over all blocks in order, whose metadata link
    points to the section -/
theorem referringDataArrays_eq_bruteforce (w : World) (hw : SoundWorld w) (sid : String) :
    secReferringDataArrays w sid = (w.blocks.flatMap (·.das)).filter fun h => h.md == some sid :=
  flatMap_filter_metaFilter w hw sid _ hw.das

theorem referringTags_eq_bruteforce (w : World) (hw : SoundWorld w) (sid : String) :
    secReferringTags w sid = (w.blocks.flatMap (·.tags)).filter fun h => h.md == some sid :=
  flatMap_filter_metaFilter w hw sid _ hw.tags

theorem referringMultiTags_eq_bruteforce (w : World) (hw : SoundWorld w) (sid : String) :
    secReferringMultiTags w sid = (w.blocks.flatMap (·.mtags)).filter fun h => h.md == some sid :=
  flatMap_filter_metaFilter w hw sid _ hw.mtags

/-- the per-block overloads are the restriction of the brute-force list to that block -/
theorem referringDataArraysIn_eq_bruteforce (w : World) (hw : SoundWorld w) (sid : String) (b : Blk) (hb : b ∈ w.blocks) :
    secReferringDataArraysIn w sid b = b.das.filter fun h => h.md == some sid :=
  filter_metaFilter w hw sid _ _ (hw.das b hb)

theorem referringTagsIn_eq_bruteforce (w : World) (hw : SoundWorld w) (sid : String) (b : Blk) (hb : b ∈ w.blocks) :
    secReferringTagsIn w sid b = b.tags.filter fun h => h.md == some sid :=
  filter_metaFilter w hw sid _ _ (hw.tags b hb)

theorem referringMultiTagsIn_eq_bruteforce (w : World) (hw : SoundWorld w) (sid : String) (b : Blk) (hb : b ∈ w.blocks) :
    secReferringMultiTagsIn w sid b = b.mtags.filter fun h => h.md == some sid :=
  filter_metaFilter w hw sid _ _ (hw.mtags b hb)

theorem referringSourcesIn_perm_bruteforce (w : World) (hw : SoundWorld w) (sid : String) (b : Blk) (hb : b ∈ w.blocks) :
    (secReferringSourcesIn w sid b).Perm ((nodesL b.sources).filter fun s => s.val.md == some sid) :=
  (unlimited_depth_whole_block _ unlimited b.sources (hw.srcHeight b hb)).trans
    (.of_eq (filter_metaFilter w hw sid (fun s : Src => s.val.md) _ (hw.srcs b hb)))

/-- **referring_eq_bruteforce (sources)** — exactly (as a multiset) the sources, at any depth of any block, whose metadata
    link points to the section -/
theorem referringSources_perm_bruteforce (w : World) (hw : SoundWorld w) (sid : String) :
    (secReferringSources w sid).Perm ((w.blocks.flatMap fun b => nodesL b.sources).filter fun s => s.val.md == some sid) := by
  rw [List.filter_flatMap]
  exact flatMap_perm fun b hb => referringSourcesIn_perm_bruteforce w hw sid b hb

/-- the back references carry no id twice when the ids of the sources of the block are pairwise distinct -/
theorem referringSourcesIn_nodup (w : World) (sid : String) (b : Blk) (hnd : ((nodesL b.sources).map (·.val.id)).Nodup) :
    ((secReferringSourcesIn w sid b).map (·.val.id)).Nodup :=
  blockFind_nodup (·.val.id) _ unlimited b.sources hnd

def bRef : Blk :=
  { id := "b1", md := some "s2", das := [⟨"a1", some "s2", ["o2"]⟩, ⟨"a2", some "s7", []⟩], tags := [⟨"t1", some "s2", ["o1", "o2"]⟩],
    sources := [.node ⟨"o1", "r", "t", some "s7"⟩ [.node ⟨"o2", "x", "t", some "s2"⟩ []]] }
def wRef : World :=
  { sections := [s1, s6],
    blocks := [ bRef,
                { id := "b2", das := [⟨"a3", some "s2", []⟩, ⟨"a4", none, []⟩] } ] }

theorem wRef_sound : SoundWorld wRef := by
  constructor <;> decide +kernel

example : (secReferringDataArrays wRef "s2").map (·.id) = ["a1", "a3"] := by
  rw [referringDataArrays_eq_bruteforce wRef wRef_sound]; decide
example : (secReferringBlocks wRef "s2").map (·.id) = ["b1"] := by
  rw [referringBlocks_eq_bruteforce wRef wRef_sound]; decide
example : ((secReferringSources wRef "s2").map (·.val.id)).Perm ["o2"] := by
  have := (referringSources_perm_bruteforce wRef wRef_sound "s2").map (·.val.id)
  exact this.trans (by decide)

/-- **referring_eq_bruteforce (of a source)** — membership: exactly the data arrays / tags / multi tags of the block whose
    source list names the source; the block's order is kept and nothing is repeated -/
theorem srcReferring_mem (b : Blk) (sid : String) (h : Holder) :
    (h ∈ srcReferringDataArrays b sid ↔ h ∈ b.das ∧ sid ∈ h.srcs) ∧
    (h ∈ srcReferringTags b sid ↔ h ∈ b.tags ∧ sid ∈ h.srcs) ∧
    (h ∈ srcReferringMultiTags b sid ↔ h ∈ b.mtags ∧ sid ∈ h.srcs) := by
  simp [srcReferringDataArrays, srcReferringTags, srcReferringMultiTags, srcFilter, List.mem_filter]

example : (srcReferringDataArrays bRef "o2").map (·.id) = ["a1"] ∧ (srcReferringTags bRef "o1").map (·.id) = ["t1"] := by
  decide

theorem srcReferring_sublist (b : Blk) (sid : String) :
    (srcReferringDataArrays b sid).Sublist b.das ∧ (srcReferringTags b sid).Sublist b.tags ∧
    (srcReferringMultiTags b sid).Sublist b.mtags :=
  ⟨List.filter_sublist, List.filter_sublist, List.filter_sublist⟩

/-- what `parentSource()` returns is a source of the block that has a direct child with the id -/
theorem parentSource_sound (b : Blk) (i : String) (p : Src) (h : parentSource b i = some p) :
    p ∈ nodesL b.sources ∧ ∃ c ∈ p.children, c.val.id = i := by
  have := search_sound (block_find_perm_bruteforce _ _ _) (List.mem_of_mem_head? h)
  exact ⟨this.1, by simpa [hasChildWithId] using this.2⟩

/-- **parentSource_spec** — ids pairwise distinct within the block: the parent source of a child of `p` is `p` itself … -/
theorem parentSource_spec (b : Blk) (p c : Src) (hh : heightL b.sources ≤ unlimited + 1)
    (hnd : ((nodesL b.sources).map (·.val.id)).Nodup)
    (hp : p ∈ nodesL b.sources) (hc : c ∈ p.children) : parentSource b c.val.id = some p := by
  have hkey : hasChildWithId c.val.id p = true := List.any_eq_true.2 ⟨c, hc, by simp⟩
  obtain ⟨q, hres⟩ := search_head (block_find_perm_bruteforce (hasChildWithId c.val.id) _ _) hh hp hkey
  obtain ⟨hq, c', hc', hi⟩ := parentSource_sound b c.val.id q hres
  rw [show parentSource b c.val.id = some q from hres, parent_unique (·.val.id) b.sources hnd hq hp hc' hc hi]

/-- … and an id that is nobody's child has none -/
theorem parentSource_none (b : Blk) (i : String)
    (hno : ∀ p ∈ nodesL b.sources, ∀ c ∈ p.children, c.val.id ≠ i) : parentSource b i = none := by
  cases hres : parentSource b i with
  | none => rfl
  | some q =>
    exfalso
    obtain ⟨hq, c', hc', hi⟩ := parentSource_sound b i q hres
    exact hno q hq c' hc' hi

/-- a root source is nobody's child when ids are pairwise distinct -/
theorem parentSource_root (b : Blk) (r : Src) (hnd : ((nodesL b.sources).map (·.val.id)).Nodup)
    (hr : r ∈ b.sources) : parentSource b r.val.id = none :=
  parentSource_none b r.val.id fun _ hp _ hc => root_not_child (·.val.id) b.sources hnd hr hp hc

def o (id name : String) (cs : List Src) : Src := .node { id := id, name := name, type := "t" } cs
def uu (c : Char) : String := String.ofList (List.replicate 8 c ++ ['-'] ++ List.replicate 4 c ++ ['-'] ++ List.replicate 4 c ++ ['-'] ++ List.replicate 4 c ++ ['-'] ++ List.replicate 12 c)
def blkEx : Blk := { id := "b", sources := [o (uu '1') "r" [o (uu '2') "x" [o (uu '3') "y" []], o (uu '4') "y" []], o (uu '5') "r2" []] }
def o3 : Src := o (uu '3') "y" []
def o2 : Src := o (uu '2') "x" [o3]
example : parentSource blkEx (uu '3') = some o2 :=
  parentSource_spec blkEx o2 o3 (by decide) (by decide +kernel) (by decide) (by decide)
example : parentSource blkEx (uu '5') = none :=
  parentSource_root blkEx (o (uu '5') "r2" []) (by decide +kernel) (by decide)

/-- counter-witness for the code before fix S1 (`SourceFilter`, i.e. `hasSource(name_or_id)`): a source NAMED like the id of
    another source is taken for it — the source 5555… has a child named like the id 2222…, is met first, and is returned
    although the parent of 2222… is 7777… -/
def blkS1 : Blk := { id := "b", sources := [o (uu '5') "r2" [o (uu '6') (uu '2') []], o (uu '1') "r" [o (uu '7') "z" [o (uu '2') "x" []]]] }
example : (parentSourceByKey blkS1 (uu '2')).map (·.val.id) = some (uu '5') := by
  unfold parentSourceByKey; rw [blockFind_beyond_height _ 3 unlimited _ (by decide) (by decide), blockFindSources_eq_perRoot]; decide +kernel
example : (parentSource blkS1 (uu '2')).map (·.val.id) = some (uu '7') := by
  unfold parentSource; rw [blockFind_beyond_height _ 3 unlimited _ (by decide) (by decide), blockFindSources_eq_perRoot]; decide +kernel

/-- **inherited_eq_own_plus_unshadowed** — the section's own properties, followed by those properties of the linked
    section whose name no own property has (property names are unique within the linked section) -/
theorem inherited_eq_own_plus_unshadowed (w : World) (s : SecInfo) (l : Sec) (hl : s.link.bind (resolveSection w) = some l)
    (hnd : (l.val.props.map (·.name)).Nodup) :
    inheritedProperties w s = s.props ++ l.val.props.filter fun p => !s.props.any fun o => p.name == o.name := by
  unfold inheritedProperties
  rw [hl]
  exact copyUnshadowed_eq l.val.props s.props hnd

/-- without a (resolvable) link: the own properties -/
theorem inherited_without_link (w : World) (s : SecInfo) (hl : s.link.bind (resolveSection w) = none) :
    inheritedProperties w s = s.props := by
  unfold inheritedProperties
  rw [hl]

/-- the linked section is the section of the file with the linked id -/
theorem inherited_link_target (w : World) (s : SecInfo) (l : Sec) (hl : s.link.bind (resolveSection w) = some l) :
    l ∈ nodesL w.sections ∧ s.link = some l.val.id := by
  cases hk : s.link with
  | none => rw [hk] at hl; cases hl
  | some i =>
    rw [hk] at hl
    have := resolveSection_sound w i l hl
    exact ⟨this.1, by rw [this.2]⟩

def wEx : World := { sections := [s1, s6] }
theorem wEx_s2 : resolveSection wEx "s2" = some s2 := by
  unfold resolveSection; rw [fileFind_beyond_height _ 3 unlimited _ (by decide) (by decide), fileFindSections_eq_perRoot]; decide
example : (inheritedProperties wEx s1.val).map (·.id) = ["p1", "p2", "p4"] := by
  rw [inherited_eq_own_plus_unshadowed wEx s1.val s2 wEx_s2 (by decide)]; decide
example : (inheritedProperties wEx s2.val).map (·.id) = ["p3", "p4"] := by
  rw [inherited_without_link wEx s2.val (by decide)]; decide

/-- **findDownstream_spec** — the accepted sections of the nearest generation below the start that has any -/
theorem findDownstream_spec (f : Tree α → Bool) (t : Tree α) :
    findDownstream f t = firstHit f (treeDepth t) t.children := by
  -- the loop searches from the start again with one more generation: `e` generations have been searched in vain
  suffices H : ∀ (k e : Nat), (levels e t.children).filter f = [] →
      downLoop f t k (e + 1) = firstHit f k (level e t.children) from H _ 0 rfl
  intro k
  induction k with
  | zero => intro e _; rfl
  | succ k ih =>
    intro e he
    simp only [downLoop, firstHit]
    rw [findSections_eq_levelOrder, levels_succ_right, List.filter_append, he, List.nil_append]
    split
    next hempty =>
      rw [ih (e + 1), level_succ_right]
      rw [levels_succ_right, List.filter_append, he, List.isEmpty_iff.1 hempty]; rfl
    next => rfl

/-- **findDownstream_complete** — if any descendant is accepted, the downstream search finds something: `tree_depth()`
    iterations reach every generation -/
theorem findDownstream_complete (f : Tree α → Bool) (t : Tree α) (x : Tree α) (hx : x ∈ nodesL t.children) (hf : f x = true) :
    findDownstream f t ≠ [] := by
  rw [findDownstream_spec, treeDepth_eq]
  rcases firstHit_cases f (heightL t.children) t.children with ⟨_, h⟩ | ⟨j, h, _, hne⟩
  · have : x ∈ (levels (heightL t.children) t.children).filter f :=
      List.mem_filter.2 ⟨(levels_perm_nodes (Nat.le_refl _)).mem_iff.2 hx, hf⟩
    rw [h] at this
    cases this
  · rwa [h]

/-- whatever the downstream search returns are accepted descendants, all of the same generation -/
theorem findDownstream_sound (f : Tree α → Bool) (t : Tree α) :
    ∃ j, findDownstream f t = (level j t.children).filter f ∧ (levels j t.children).filter f = [] ∨ findDownstream f t = [] := by
  rw [findDownstream_spec]
  rcases firstHit_cases f (treeDepth t) t.children with ⟨h, _⟩ | ⟨j, h1, h2, _⟩
  · exact ⟨0, .inr h⟩
  · exact ⟨j, .inl ⟨h1, h2⟩⟩

/-- **findAmongParents_spec** — the nearest accepted ancestor -/
theorem findAmongParents_spec (f : Tree α → Bool) (anc : List (Tree α)) :
    findAmongParents f anc = (anc.find? f).toList := by
  induction anc with
  | nil => rfl
  | cons p rest ih =>
    by_cases h : f p <;> simp [findAmongParents, h, ih]

/-- **findSideways_spec** — the accepted children, except the caller, of the nearest ancestor that has an accepted child -/
theorem findSideways_spec (f isCaller : Tree α → Bool) (anc : List (Tree α)) :
    findSideways f isCaller anc =
      match anc.find? (fun p => !(p.children.filter f).isEmpty) with
      | none => []
      | some p => (p.children.filter f).filter (fun s => !isCaller s) := by
  induction anc with
  | nil => rfl
  | cons p rest ih =>
    have h1 : findSections f 1 p = p.children.filter f := by simp [findSections_eq_levelOrder, levels]
    by_cases h : (p.children.filter f).isEmpty <;> simp [findSideways, h1, h, ih]

/-- **findRelated_chain** — downstream first, then the parents, then sideways; the start section is no candidate of the
    first two (its id differs from those of its descendants and ancestors) -/
theorem findRelated_chain (f isMe : Tree α → Bool) (anc : List (Tree α)) (t : Tree α)
    (hdown : ∀ x ∈ nodesL t.children, isMe x = false) (hanc : ∀ x ∈ anc, isMe x = false) :
    findRelated f isMe anc t =
      if !(findDownstream f t).isEmpty then findDownstream f t
      else if !(findAmongParents f anc).isEmpty then findAmongParents f anc
      else findSideways f isMe anc := by
  have hd : (findDownstream f t).filter (fun s => !isMe s) = findDownstream f t :=
    List.filter_eq_self.2 fun x hx => by
      have hx' : x ∈ nodesL t.children := by
        obtain ⟨j, ⟨h, _⟩ | h⟩ := findDownstream_sound f t <;> rw [h] at hx
        · exact mem_level (List.mem_filter.1 hx).1
        · cases hx
      simp [hdown x hx']
  have hu : (findAmongParents f anc).filter (fun s => !isMe s) = findAmongParents f anc :=
    List.filter_eq_self.2 fun x hx => by
      rw [findAmongParents_spec, Option.mem_toList] at hx
      simp [hanc x (List.mem_of_find?_eq_some hx)]
  -- neither `erase_section_with_id` removes anything; what is left is the case distinction itself
  simp only [findRelated, hd]
  split <;> simp [*]

example : ids (findRelated (Flt.sec (.name "c")) (fun s => s.val.id == "s2") [s1] s2) = ["s5"] := by      -- downstream
  rw [findRelated_chain _ _ _ _ (by decide) (by decide), findSideways_spec, findAmongParents_spec, findDownstream_spec]; decide
example : ids (findRelated (Flt.sec (.name "a")) (fun s => s.val.id == "s1") [] s1) = ["s4"] := by           -- two levels down
  rw [findRelated_chain _ _ _ _ (by decide) (by decide), findSideways_spec, findAmongParents_spec, findDownstream_spec]; decide
example : ids (findRelated (Flt.sec (.name "a")) (fun s => s.val.id == "s5") [s2, s1] s5) = ["s1"] := by     -- the nearest accepted parent
  rw [findRelated_chain _ _ _ _ (by decide) (by decide), findSideways_spec, findAmongParents_spec, findDownstream_spec]; decide
example : ids (findRelated (Flt.sec (.name "c")) (fun s => s.val.id == "s4") [s2, s1] s4) = ["s5"] := by     -- sideways
  rw [findRelated_chain _ _ _ _ (by decide) (by decide), findSideways_spec, findAmongParents_spec, findDownstream_spec]; decide
example : ids (findRelated (Flt.sec (.name "c")) (fun s => s.val.id == "s5") [s2, s1] s5) = [] := by         -- only the caller itself matches among its siblings
  rw [findRelated_chain _ _ _ _ (by decide) (by decide), findSideways_spec, findAmongParents_spec, findDownstream_spec]; decide
example : ids (findRelated (Flt.sec (.name "zz")) (fun s => s.val.id == "s4") [s2, s1] s4) = [] := by
  rw [findRelated_chain _ _ _ _ (by decide) (by decide), findSideways_spec, findAmongParents_spec, findDownstream_spec]; decide

end Nix.C20
