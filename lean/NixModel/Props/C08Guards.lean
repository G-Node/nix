import NixModel.Gen.CreateGuards
/-
  C08 / C03 / C12 — the guards of the front-end create functions, read off the source on every run (`gen/extract_createguards.py`):
  the model's create entry points check name and type, then refuse a duplicate name WITHIN THE CONTAINER OF THE KIND BEING CREATED,
  and only then create.  A guard that asks another container (a copy-and-paste slip: `hasDataArray(name)` in `createDataFrame`)
  lets a duplicate reach the backend, which reopens the existing group and overwrites its id and type.
-/
namespace Nix.Guards
open Nix.Gen.CreateGuards

-- a row of `guards`: (file, function, overload, kind created, name check called, kind asked for a duplicate, check < guard < create)

/-- every create function checks the name first, asks the container of its own kind for a duplicate, and only then creates -/
theorem create_guards_are_in_place :
    ∀ g ∈ guards, g.2.2.2.2.1 ≠ "" ∧ g.2.2.2.2.2.1 = g.2.2.2.1 ∧ g.2.2.2.2.2.2 = true := by decide +kernel

/-- name AND type are checked wherever the entity has a type (a property has none) -/
theorem type_checked_with_the_name :
    ∀ g ∈ guards, g.2.2.2.1 = "Property" ∨ g.2.2.2.2.1 = "checkEntityNameAndType" := by decide +kernel

/-- the create functions the model has entry points for -/
def modelled : List (String × String) :=
  [("src/File.cpp", "createBlock"), ("src/File.cpp", "createSection"), ("src/Section.cpp", "createSection"), ("src/Section.cpp", "createProperty"),
   ("src/Block.cpp", "createSource"), ("src/Source.cpp", "createSource"), ("src/Block.cpp", "createDataArray"), ("include/nix/Block.hpp", "createDataFrame"),
   ("src/Block.cpp", "createTag"), ("src/Block.cpp", "createMultiTag"), ("src/Block.cpp", "createGroup")]

theorem modelled_creates_are_tabulated : ∀ m ∈ modelled, ∃ g ∈ guards, g.1 = m.1 ∧ g.2.1 = m.2 := by decide +kernel

end Nix.Guards
