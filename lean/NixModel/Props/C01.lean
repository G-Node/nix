import NixModel.Spec.C01
/-
  C01 — array data round trip on the array model (lean/NixModel/NDArray.lean), for every element type `V`, rank, shape and history.
  The recursive tests `inBox` / `inShape` / `boxWithin` are read pointwise (`inBox_iff` …); `resolve`, `write` and `setExtent` get the
  equations of their accepted cases; a history is followed by induction with the array kept normalised (`Normal`).
-/
namespace Nix.C01
open Nix

variable {V : Type}

theorem forall_getElem_cons {R : Nat → Nat → Nat → Prop} {x y z : Nat} {xs ys zs : Idx} :
    (∀ i (h0 : i < (x :: xs).length) (h1 : i < (y :: ys).length) (h2 : i < (z :: zs).length), R (x :: xs)[i] (y :: ys)[i] (z :: zs)[i]) ↔
    R x y z ∧ ∀ i (h0 : i < xs.length) (h1 : i < ys.length) (h2 : i < zs.length), R xs[i] ys[i] zs[i] :=
  ⟨fun h => ⟨h 0 (by simp) (by simp) (by simp), fun i h0 h1 h2 => h (i + 1) (by simpa using h0) (by simpa using h1) (by simpa using h2)⟩,
   fun ⟨hd, tl⟩ i h0 h1 h2 => match i with
     | 0 => hd
     | i + 1 => tl i (by simpa using h0) (by simpa using h1) (by simpa using h2)⟩

theorem inBox_iff : ∀ (off cnt idx : Idx), inBox off cnt idx = true ↔
    off.length = idx.length ∧ cnt.length = idx.length ∧
    ∀ i (h0 : i < off.length) (h1 : i < cnt.length) (h2 : i < idx.length), off[i] ≤ idx[i] ∧ idx[i] < off[i] + cnt[i]
  | [], [], [] => by simp [inBox]
  | [], [], _ :: _ => by simp [inBox]
  | [], _ :: _, _ => by simp [inBox]; omega
  | _ :: _, [], _ => by simp [inBox]; omega
  | _ :: _, _ :: _, [] => by simp [inBox]
  | o :: os, c :: cs, i :: is => by
    rw [forall_getElem_cons (R := fun o c i => o ≤ i ∧ i < o + c)]
    simp only [inBox, Bool.and_eq_true, decide_eq_true_eq, inBox_iff os cs is, List.length_cons, Nat.add_right_cancel_iff,
      and_assoc, and_left_comm]

theorem boxWithin_iff : ∀ (shape off cnt : Idx), boxWithin shape off cnt = true ↔
    off.length = shape.length ∧ cnt.length = shape.length ∧
    ∀ i (h0 : i < shape.length) (h1 : i < off.length) (h2 : i < cnt.length), off[i] + cnt[i] ≤ shape[i]
  | [], [], [] => by simp [boxWithin]
  | [], [], _ :: _ => by simp [boxWithin]
  | [], _ :: _, _ => by simp [boxWithin]
  | _ :: _, [], _ => by simp [boxWithin]
  | _ :: _, _ :: _, [] => by simp [boxWithin]
  | n :: ns, o :: os, c :: cs => by
    rw [forall_getElem_cons (R := fun n o c => o + c ≤ n)]
    simp only [boxWithin, Bool.and_eq_true, decide_eq_true_eq, boxWithin_iff ns os cs, List.length_cons, Nat.add_right_cancel_iff,
      and_left_comm]

theorem inBox_zeros : ∀ (s idx : Idx), inBox (zeros s.length) s idx = inShape s idx
  | [], [] => rfl
  | [], _ :: _ => rfl
  | _ :: _, [] => rfl
  | n :: ns, i :: is => by
    simp only [List.length_cons, zeros, List.replicate_succ, inBox, inShape, Nat.zero_le, decide_true, Bool.true_and, Nat.zero_add]
    rw [← inBox_zeros ns is]; rfl

theorem inShape_iff (shape idx : Idx) : inShape shape idx = true ↔
    idx.length = shape.length ∧ ∀ i (h0 : i < shape.length) (h1 : i < idx.length), idx[i] < shape[i] := by
  rw [← inBox_zeros, inBox_iff]
  simp only [zeros, List.length_replicate, List.getElem_replicate, Nat.zero_le, Nat.zero_add, true_and]
  exact ⟨fun ⟨h1, _, h⟩ => ⟨h1.symm, fun i h0 h2 => h i h0 h0 h2⟩, fun ⟨h1, h⟩ => ⟨h1.symm, h1.symm, fun i h0 _ h2 => h i h0 h2⟩⟩

theorem inBox_inShape_of_within (shape off cnt idx : Idx) (hw : boxWithin shape off cnt = true) (hb : inBox off cnt idx = true) :
    inShape shape idx = true := by
  obtain ⟨w1, w2, w⟩ := (boxWithin_iff ..).1 hw
  obtain ⟨b1, b2, b⟩ := (inBox_iff ..).1 hb
  refine (inShape_iff ..).2 ⟨by omega, fun i h0 h1 => ?_⟩
  have := w i h0 (by omega) (by omega)
  have := b i (by omega) (by omega) h1
  omega

theorem boxWithin_lengths (shape off cnt : Idx) (h : boxWithin shape off cnt = true) :
    off.length = shape.length ∧ cnt.length = shape.length :=
  ⟨((boxWithin_iff ..).1 h).1, ((boxWithin_iff ..).1 h).2.1⟩

theorem resolve_full (a : NDArray V) (cnt off : Idx) (hc : cnt ≠ []) (ho : off ≠ [])
    (hcl : cnt.length = a.shape.length) (hol : off.length = a.shape.length) :
    a.resolve cnt off = if cnt.contains 0 || a.boxOk off cnt then .ok (off, cnt) else .error .h5Error := by
  unfold NDArray.resolve
  have h1 : off.isEmpty = false := List.isEmpty_eq_false_iff.2 ho
  have h2 : cnt.isEmpty = false := List.isEmpty_eq_false_iff.2 hc
  have t1 : List.take a.shape.length cnt = cnt := by rw [← hcl]; exact List.take_length
  have t2 : List.take a.shape.length off = off := by rw [← hol]; exact List.take_length
  simp only [h1, h2, Bool.false_and, Bool.false_eq_true, if_false, hcl, hol, Nat.lt_irrefl, decide_false, Bool.or_self, t1, t2,
    beq_self_eq_true, Bool.and_true]
  cases cnt.contains 0 <;> simp

theorem resolve_of_boxOk (a : NDArray V) (cnt off : Idx) (hc : cnt ≠ []) (ho : off ≠ []) (hb : a.boxOk off cnt = true) :
    a.resolve cnt off = .ok (off, cnt) := by
  obtain ⟨hl1, hl2⟩ := boxWithin_lengths a.shape off cnt hb
  rw [resolve_full a cnt off hc ho hl2 hl1, hb, Bool.or_true, if_pos rfl]

/-- a request of the wrong rank is never served as the box (off, cnt) of the same rank: too few entries are refused outright
    (`InvalidRank`, fix de0d7a0) -/
theorem resolve_short_refused (a : NDArray V) (cnt off : Idx) (hc : cnt ≠ []) (ho : off ≠ [])
    (hs : cnt.length < a.shape.length ∨ off.length < a.shape.length) : a.resolve cnt off = .error .invalidRank := by
  unfold NDArray.resolve
  have h1 : off.isEmpty = false := List.isEmpty_eq_false_iff.2 ho
  have h2 : cnt.isEmpty = false := List.isEmpty_eq_false_iff.2 hc
  simp [h1, h2, hs]

theorem write_eq (a : NDArray V) (cnt off : Idx) (vals : List V) (hc : cnt ≠ []) (ho : off ≠ []) (hb : a.boxOk off cnt = true) :
    a.write cnt off vals = .ok { a with get := fun idx =>
      (if inBox off cnt idx then (match vals[linear cnt (subIdx idx off)]? with | some v => v | none => a.zero) else a.get idx) } := by
  unfold NDArray.write
  rw [resolve_of_boxOk a cnt off hc ho hb]
  rfl

/-- after a write, an element reads as the written value inside the box and as before outside it -/
theorem get_write (a a' : NDArray V) (cnt off : Idx) (vals : List V) (hc : cnt ≠ []) (ho : off ≠ [])
    (hb : a.boxOk off cnt = true) (h : a.write cnt off vals = .ok a') (idx : Idx) :
    a'.get idx = if inBox off cnt idx then (match vals[linear cnt (subIdx idx off)]? with | some v => v | none => a.zero)
                 else a.get idx := by
  rw [write_eq a cnt off vals hc ho hb] at h
  cases h; rfl

theorem write_shape (a a' : NDArray V) (cnt off : Idx) (vals : List V) (h : a.write cnt off vals = .ok a') :
    a'.shape = a.shape ∧ a'.zero = a.zero := by
  unfold NDArray.write at h
  split at h
  · cases h
  · cases h; exact ⟨rfl, rfl⟩

/-- a box with a zero count contains no index -/
theorem inBox_zero : ∀ (off cnt idx : Idx), 0 ∈ cnt → inBox off cnt idx = false := by
  intro off cnt idx hz
  refine Bool.eq_false_iff.2 fun h => ?_
  obtain ⟨b1, b2, b⟩ := (inBox_iff ..).1 h
  obtain ⟨i, hi, he⟩ := List.getElem_of_mem hz
  have := b i (by omega) hi (by omega)
  omega

theorem write_frame (a a' : NDArray V) (cnt off : Idx) (vals : List V) (hc : cnt ≠ []) (ho : off ≠ [])
    (hcl : cnt.length = a.shape.length) (hol : off.length = a.shape.length)
    (h : a.write cnt off vals = .ok a') (idx : Idx) (hout : inBox off cnt idx = false) : a'.get idx = a.get idx := by
  unfold NDArray.write at h
  rw [resolve_full a cnt off hc ho hcl hol] at h
  split at h
  · cases h
  rename_i o c heq
  cases h
  split at heq
  · cases heq
    show (if inBox off cnt idx = true then _ else a.get idx) = a.get idx
    rw [hout]; rfl
  · cases heq

/-- **read_write_disjoint** — elements outside the written box keep their value -/
theorem read_write_disjoint (a a' : NDArray V) (cnt off : Idx) (vals : List V) (hc : cnt ≠ []) (ho : off ≠ [])
    (hb : a.boxOk off cnt = true) (h : a.write cnt off vals = .ok a') (idx : Idx) (hout : inBox off cnt idx = false) :
    a'.get idx = a.get idx :=
  write_frame a a' cnt off vals hc ho (boxWithin_lengths _ _ _ hb).2 (boxWithin_lengths _ _ _ hb).1 h idx hout

/-- a write with a zero entry in its count is accepted wherever it points and changes no element (HDF5 selects nothing) -/
theorem get_write_zero (a a' : NDArray V) (cnt off : Idx) (vals : List V) (ho : off ≠ [])
    (hcl : cnt.length = a.shape.length) (hol : off.length = a.shape.length) (hz : 0 ∈ cnt)
    (h : a.write cnt off vals = .ok a') (idx : Idx) : a'.get idx = a.get idx :=
  write_frame a a' cnt off vals (List.ne_nil_of_mem hz) ho hcl hol h idx (inBox_zero off cnt idx hz)

/-- a write that would leave the extent (and asks for at least one element) is refused and transfers nothing -/
theorem write_outside_rejected (a : NDArray V) (cnt off : Idx) (vals : List V) (hc : cnt ≠ []) (ho : off ≠ [])
    (hcl : cnt.length = a.shape.length) (hol : off.length = a.shape.length) (hz : 0 ∉ cnt)
    (hb : a.boxOk off cnt = false) : a.write cnt off vals = .error .h5Error := by
  unfold NDArray.write
  rw [resolve_full a cnt off hc ho hcl hol, hb, Bool.eq_false_iff.2 (mt List.contains_iff_mem.1 hz)]
  rfl

def resized (a : NDArray V) (shape : Idx) : NDArray V :=
  { a with shape := shape, get := fun idx => (if inShape shape idx && inShape a.shape idx then a.get idx else a.zero) }

theorem setExtent_eq (a : NDArray V) (shape : Idx) (h : shape.length = a.shape.length) : a.setExtent shape = .ok (resized a shape) := by
  unfold NDArray.setExtent
  rw [if_neg (by simp [h])]; rfl

/-- **setExtent**: surviving elements keep their value, newly exposed ones read as zero -/
theorem get_setExtent (a a' : NDArray V) (shape : Idx) (h : a.setExtent shape = .ok a') (idx : Idx) :
    a'.shape = shape ∧ a'.zero = a.zero ∧
    a'.get idx = if inShape shape idx && inShape a.shape idx then a.get idx else a.zero := by
  unfold NDArray.setExtent at h
  split at h
  · cases h
  · simp only [Except.ok.injEq] at h; rw [← h]; exact ⟨rfl, rfl, rfl⟩

/-- **read_after_grow_zero** — what a change of extent newly exposes reads as zero -/
theorem read_after_grow_zero (a a' : NDArray V) (shape : Idx) (h : a.setExtent shape = .ok a') (idx : Idx)
    (hnew : inShape a.shape idx = false) : a'.get idx = a.zero := by
  rw [(get_setExtent a a' shape h idx).2.2, hnew]; simp

/-- **shrink_then_grow_zero** — what was cut off does not come back -/
theorem shrink_then_grow_zero (a b c : NDArray V) (small big : Idx) (h1 : a.setExtent small = .ok b)
    (h2 : b.setExtent big = .ok c) (idx : Idx) (hcut : inShape small idx = false) : c.get idx = a.zero := by
  obtain ⟨hs, hz, _⟩ := get_setExtent a b small h1 idx
  rw [(get_setExtent b c big h2 idx).2.2, hs, hcut, hz]; simp

def Normal (a : NDArray V) : Prop := ∀ idx, inShape a.shape idx = false → a.get idx = a.zero

theorem normal_empty (shape : Idx) (z : V) : Normal (NDArray.empty shape z) := fun _ _ => rfl

theorem applyOp_normal (a : NDArray V) (op : HOp V) (hn : Normal a) (hadm : Admissible a op) :
    Normal (applyOp a op) ∧ (applyOp a op).zero = a.zero := by
  cases op with
  | write off cnt vals =>
    obtain ⟨hb, hc, ho⟩ := hadm
    simp only [applyOp, write_eq a cnt off vals hc ho hb]
    refine ⟨fun idx hout => ?_, trivial⟩
    have hnb : inBox off cnt idx = false :=
      Bool.eq_false_iff.2 fun hx => Bool.eq_false_iff.1 hout (inBox_inShape_of_within a.shape off cnt idx hb hx)
    show (if inBox off cnt idx = true then _ else a.get idx) = a.zero
    rw [hnb]; exact hn idx hout
  | extent shape =>
    simp only [applyOp, setExtent_eq a shape hadm, resized]
    refine ⟨fun idx hout => ?_, trivial⟩
    show (if (inShape shape idx && inShape a.shape idx) = true then a.get idx else a.zero) = a.zero
    rw [show inShape shape idx = false from hout]; rfl

def AllAdmissible (a : NDArray V) : List (HOp V) → Prop
  | [] => True
  | op :: ops => Admissible a op ∧ AllAdmissible (applyOp a op) ops

theorem step_lastValue (a : NDArray V) (past : List (HOp V)) (op : HOp V) (hn : Normal a) (hadm : Admissible a op)
    (ih : ∀ idx, a.get idx = lastValue a.zero past idx) (idx : Idx) :
    (applyOp a op).get idx = lastValue a.zero (op :: past) idx := by
  cases op with
  | write off cnt vals =>
    obtain ⟨hb, hc, ho⟩ := hadm
    simp only [applyOp, lastValue, write_eq a cnt off vals hc ho hb, ih idx]
    rfl
  | extent shape =>
    simp only [applyOp, lastValue, setExtent_eq a shape hadm, resized]
    cases h1 : inShape shape idx with
    | false => simp
    | true =>
      cases h2 : inShape a.shape idx with
      | true => simp [ih idx]
      | false => simp [← ih idx, hn idx h2]

/-- **history_last_writer** — after any admissible history every element holds the value of the last write
    covering it since its index was last outside the extent, and zero if there is none
    (induction over the history; `past` is the history so far, most recent first) -/
theorem history_last_writer (ops : List (HOp V)) :
    ∀ (a : NDArray V) (past : List (HOp V)), Normal a → (∀ idx, a.get idx = lastValue a.zero past idx) →
      AllAdmissible a ops →
      ∀ idx, (ops.foldl applyOp a).get idx = lastValue a.zero (ops.reverse ++ past) idx := by
  induction ops with
  | nil => intro a past _ ih _ idx; simpa using ih idx
  | cons op ops ihops =>
    intro a past hn ih hadm idx
    obtain ⟨h1, h2⟩ := hadm
    obtain ⟨hn', hz'⟩ := applyOp_normal a op hn h1
    have hstep := step_lastValue a past op hn h1 ih
    have := ihops (applyOp a op) (op :: past) hn' (by intro i; rw [hz']; exact hstep i) h2 idx
    simp only [List.foldl_cons, List.reverse_cons, List.append_assoc, List.singleton_append]
    rw [this, hz']

/-- … started from a freshly created array -/
theorem history_from_creation (shape0 : Idx) (z : V) (ops : List (HOp V))
    (hadm : AllAdmissible (NDArray.empty shape0 z) ops) (idx : Idx) :
    (ops.foldl applyOp (NDArray.empty shape0 z)).get idx = lastValue z (ops.reverse ++ [.extent shape0]) idx := by
  have := history_last_writer ops (NDArray.empty shape0 z) [.extent shape0] (normal_empty shape0 z)
    (by intro i; simp [NDArray.empty, lastValue]) hadm idx
  simpa [NDArray.empty] using this

/-- **read_depends_on_store_only** (reopening preserves the data) — the model has no session state: an array is its extent and its
    elements, which is what close + reopen must hand back (the tie to HDF5 persistence is the correspondence run) -/
theorem read_depends_on_store_only (a b : NDArray V) (hs : a.shape = b.shape) (hg : ∀ idx, a.get idx = b.get idx)
    (cnt off : Idx) : a.read cnt off = b.read cnt off := by
  unfold NDArray.read NDArray.resolve NDArray.boxOk
  rw [hs]
  split
  · rfl
  · rename_i o c heq; simp [hg]

def demoOps : List (HOp Nat) := [.write [0, 1] [2, 2] [1, 2, 3, 4], .extent [2, 2], .extent [3, 3], .write [2, 0] [1, 3] [7, 8, 9]]
instance (a : NDArray V) (op : HOp V) : Decidable (Admissible a op) := by
  cases op <;> unfold Admissible <;> infer_instance
instance : (a : NDArray V) → (ops : List (HOp V)) → Decidable (AllAdmissible a ops)
  | _, [] => isTrue trivial
  | a, op :: ops => by
    unfold AllAdmissible
    exact @instDecidableAnd _ _ _ (instDecidableAllAdmissible (applyOp a op) ops)
example : AllAdmissible (NDArray.empty [2, 3] 0) demoOps := by decide
example : (tuples [3, 3]).map (demoOps.foldl applyOp (NDArray.empty [2, 3] 0)).get = [0, 1, 0, 0, 3, 0, 7, 8, 9] := by decide

end Nix.C01
