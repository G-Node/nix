import NixModel.Gen.Types
/-
  C01 / C02 / C15 — the element type an array (a data-frame column, a property) is created with is the element type it reports
  after the file has been written and read again, and a transfer loses nothing to its memory type.

  The two directions of the element-type mapping of the HDF5 backend (`data_type_to_h5_filetype` / `_memtype`,
  `data_type_from_h5`) are taken from backend/hdf5/h5x/H5DataType.cpp on every run (`gen/extract_types.py`,
  NixModel/Gen/Types.lean).  What is written by hand is what HDF5 says about its predefined types (class, size in bytes, sign) and
  the wrapper of `data_type_from_h5` (an enumeration equal to the boolean file type is Bool, an opaque type is Opaque).  The theorems
  are finite statements over the generated tables, decided by the kernel.
-/
namespace Nix.Types
open Nix.Gen.Types

/-- class, size in bytes (0 = variable), sign of the HDF5 types the tables mention -/
def h5props (t : String) : Option (String × Nat × String) :=
  if t == "H5T_STD_I8LE" || t == "H5T_NATIVE_INT8" then some ("H5T_INTEGER", 1, "signed")
  else if t == "H5T_STD_I16LE" || t == "H5T_NATIVE_INT16" then some ("H5T_INTEGER", 2, "signed")
  else if t == "H5T_STD_I32LE" || t == "H5T_NATIVE_INT32" then some ("H5T_INTEGER", 4, "signed")
  else if t == "H5T_STD_I64LE" || t == "H5T_NATIVE_INT64" then some ("H5T_INTEGER", 8, "signed")
  else if t == "H5T_STD_U8LE" || t == "H5T_NATIVE_UINT8" then some ("H5T_INTEGER", 1, "unsigned")
  else if t == "H5T_STD_U16LE" || t == "H5T_NATIVE_UINT16" then some ("H5T_INTEGER", 2, "unsigned")
  else if t == "H5T_STD_U32LE" || t == "H5T_NATIVE_UINT32" then some ("H5T_INTEGER", 4, "unsigned")
  else if t == "H5T_STD_U64LE" || t == "H5T_NATIVE_UINT64" then some ("H5T_INTEGER", 8, "unsigned")
  else if t == "H5T_IEEE_F32LE" || t == "H5T_NATIVE_FLOAT" then some ("H5T_FLOAT", 4, "")
  else if t == "H5T_IEEE_F64LE" || t == "H5T_NATIVE_DOUBLE" then some ("H5T_FLOAT", 8, "")
  else if t == "h5x::DataType::makeStrType()" then some ("H5T_STRING", 0, "")
  else if t == "boolfiletype" || t == "boolmemtype" then some ("H5T_ENUM", 1, "")      -- an enumeration over a one-byte integer
  else if t == "H5T_NATIVE_OPAQUE" then some ("H5T_OPAQUE", 1, "")
  else none

/-- `data_type_from_h5(class, size, sign)`: the generated decision list, first match wins; nothing matches ⇒ Nothing -/
def fromClass (cls : String) (size : Nat) (sign : String) : String :=
  match fromH5.find? fun r => r.1 == cls && (r.2.1 == 0 || r.2.1 == size) && (r.2.2.1 == "" || r.2.2.1 == sign) with
  | some r => r.2.2.2
  | none => "Nothing"

/-- `data_type_from_h5(const h5x::DataType &)`: the wrapper — opaque is Opaque, everything else goes by class, size and sign
    (for an enumeration the wrapper first asks whether it is the boolean file type; the boolean file type is what `fileType` hands
    out for Bool) -/
def fromFile (t : String) : String :=
  match h5props t with
  | some ("H5T_OPAQUE", _, _) => "Opaque"
  | some (c, n, s) => fromClass c n s
  | none => "Nothing"

/-- **stored_type_reads_back** — every element type that `data_type_to_h5_filetype` accepts comes back from
    `data_type_from_h5` of the file type it was stored with -/
theorem stored_type_reads_back : ∀ p ∈ fileType, p.2 ≠ "" → fromFile p.2 = p.1 := by decide +kernel

/-- the element types the library stores: everything but Char and Nothing -/
theorem storable_types : (fileType.filter (·.2 != "")).map (·.1) =
    ["Bool", "Int8", "Int16", "Int32", "Int64", "UInt8", "UInt16", "UInt32", "UInt64", "Float", "Double", "String", "Opaque"] := by decide +kernel

/-- **memory_type_matches_file_type** — the memory type of a transfer has the class, the size and the sign of the file type: no
    value is narrowed or re-signed on its way (both tables refuse the same element types) -/
theorem memory_type_matches_file_type : ∀ p ∈ fileType.zip memType, p.1.1 = p.2.1 ∧ (p.1.2 = "" ↔ p.2.2 = "") ∧ h5props p.1.2 = h5props p.2.2 := by
  decide +kernel

/-- distinct element types get distinct file types: the mapping back cannot confuse two of them -/
theorem file_types_distinct : ((fileType.filter (·.2 != "")).map fun p => h5props p.2).Nodup := by decide +kernel

end Nix.Types
