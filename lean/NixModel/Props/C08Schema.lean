import NixModel.Props.C08Full
import NixModel.Props.C03Schema
/-
  C08 — "a rejected operation leaves no trace" for every entry point, with the structural side conditions of
  `rejected_no_trace` (Props/C08Full.lean) discharged by the schema invariant: in a state that satisfies `WT` and for a call
  whose object arguments have the role their C++ type guarantees, only facts about generated ids remain as hypotheses
  (the array handed to createMultiTag / createFeature carries a generated id — C12 — and a name; the id of a new feature is fresh).
-/
namespace Nix.St
open Store

/-- what remains to be said about ids (C12's business) for the two entry points whose refusal depends on a second lookup -/
def Op.idFacts (s : Store) : Op → Prop
  | .createMultiTag _ _ _ _ _ ph => ∀ h, ph = some h → looksLikeUUID (idOf s h.obj) = true ∧ (nameOf s h.obj).isEmpty = false ∧ h.obj < s.objs.length
  | .createFeature tag _ i _ _ dh => (∀ h, dh = some h → looksLikeUUID (idOf s h.obj) = true) ∧
      (∀ x, s.optGroup tag "features" = some x → s.hasGroup x i = false)
  | _ => True

theorem wf_of_schema {s : Store} {ρ : ObjId → Role} (h : WT s ρ) (op : Op) (hk : op.kinded s ρ) (hi : op.idFacts s) : op.wf s := by
  cases op with
  | createMultiTag b n t i c ph =>
    exact ⟨hk.1, h.block_containers_hold_groups b hk.2 "A", hi⟩
  | createFeature tag b i c lt dh =>
    exact ⟨hk.2.2.1, hk.1, h.block_containers_hold_groups b hk.2.2.2 "A", hi.1, hi.2⟩
  | _ => trivial

/-- C08 for EVERY entry point in EVERY state that satisfies the schema (hence in every reachable state, `reachable_wt`) -/
theorem rejected_no_trace_schema {s : Store} {ρ : ObjId → Role} (h : WT s ρ) (op : Op) (e : Err) (hk : op.kinded s ρ)
    (hi : op.idFacts s) (hr : (op.apply s).2 = .error e) : NoTrace s (op.apply s).1 :=
  rejected_no_trace s op e (wf_of_schema h op hk hi) hr

theorem rejected_no_trace_reachable {s : Store} {ρ : ObjId → Role} (h : Reachable s ρ) (op : Op) (e : Err) (hk : op.kinded s ρ)
    (hi : op.idFacts s) (hr : (op.apply s).2 = .error e) : NoTrace s (op.apply s).1 :=
  rejected_no_trace_schema (reachable_wt h) op e hk hi hr

end Nix.St
