import NixModel.Proofs.UnitsLemmas
/-
  C18 — unit scaling.  The table facts are decided by the kernel (`decide +kernel`) over the alternations and the exponent table
  that gen/extract_tables.py takes from src/util/util.cpp on every run.
-/
namespace Nix.C18
open Nix.Units

theorem units_first_alt_self : ∀ u ∈ unitAlts, firstAlt unitAlts u = some (u, []) := by decide +kernel
theorem prefix_first_alt : ∀ p ∈ prefixAlts, ∀ u ∈ unitAlts, firstAlt prefixAlts (p ++ u) = some (p, u) := by decide +kernel
theorem no_caret : ∀ a ∈ prefixAlts ++ unitAlts, '^' ∉ a := by decide +kernel
theorem unit_not_prefixed : ∀ u ∈ unitAlts, matchPU u = false := by decide +kernel
theorem alts_nonempty : ∀ a ∈ prefixAlts ++ unitAlts, a ≠ [] := by decide +kernel

theorem caret_not_in_prefix : ∀ a ∈ prefixAlts, '^' ∉ a := fun a h => no_caret a (by simp [h])
theorem caret_not_in_unit : ∀ a ∈ unitAlts, '^' ∉ a := fun a h => no_caret a (by simp [h])

/-- the units the property speaks of, in parts: the atomic SI units `PREFIXES? UNITS POWER?` of util.cpp -/
def WF (p u n : Str) : Prop :=
  (p = [] ∨ p ∈ prefixAlts) ∧ u ∈ unitAlts ∧ (n = [] ∨ matchPower ('^' :: n) = true)

def mk (p u n : Str) : Str := p ++ u ++ (if n = [] then [] else '^' :: n)

theorem mk_nil (p u : Str) : mk p u [] = p ++ u := by simp [mk]
theorem mk_power {n : Str} (p u : Str) (h : n ≠ []) : mk p u n = p ++ u ++ '^' :: n := by simp [mk, h]

theorem head_no_caret {p u : Str} (hp : p = [] ∨ p ∈ prefixAlts) (hu : u ∈ unitAlts) : '^' ∉ p ++ u := by
  have := caret_not_in_unit u hu
  rcases hp with rfl | hp
  · simpa
  · simp [caret_not_in_prefix p hp, this]

theorem split_no_power : ∀ p ∈ ([] :: prefixAlts), ∀ u ∈ unitAlts, splitUnit (p ++ u) = ⟨p, u, []⟩ := by
  intro p hp u hu
  rw [splitUnit_no_caret (head_no_caret (List.mem_cons.mp hp) hu)]
  rcases List.mem_cons.mp hp with rfl | hp
  · rw [List.nil_append, unit_not_prefixed u hu]; rfl
  · rw [matchPU_append hp hu, searchAlt_of_firstAlt _ _ _ (prefix_first_alt p hp u hu)]; rfl

theorem split_power (p u n : Str) (hp : p = [] ∨ p ∈ prefixAlts) (hu : u ∈ unitAlts)
    (hn : matchPower ('^' :: n) = true) : splitUnit (p ++ u ++ '^' :: n) = ⟨p, u, n⟩ := by
  have hc := head_no_caret hp hu
  have hsu := searchAlt_append_sep n caret_not_in_unit (units_first_alt_self u hu)
  unfold splitUnit
  rw [matchPUP_power hc hn caret_not_in_prefix caret_not_in_unit, matchUP_power hc hn caret_not_in_unit]
  rcases hp with rfl | hp
  · rw [List.nil_append, unit_not_prefixed u hu, matchU_self hu, hsu]; rfl
  · rw [matchPU_append hp hu, searchAlt_append_sep n caret_not_in_prefix (prefix_first_alt p hp u hu)]
    simp only [if_true]
    rw [hsu]; rfl

/-- a printed unit is split back into exactly its prefix, base unit and power -/
theorem split_print_roundtrip (p u n : Str) (h : WF p u n) : splitUnit (mk p u n) = ⟨p, u, n⟩ := by
  obtain ⟨hp, hu, hn⟩ := h
  by_cases hn0 : n = []
  · subst hn0
    rw [mk_nil]
    exact split_no_power p (List.mem_cons.mpr hp) u hu
  · rw [mk_power p u hn0]
    exact split_power p u n hp hu (hn.resolve_left hn0)

/-- prefix and unit are never ambiguous: different well-formed triples print differently -/
theorem prefix_unit_unambiguous (p u n p' u' n' : Str) (h : WF p u n) (h' : WF p' u' n')
    (heq : mk p u n = mk p' u' n') : p = p' ∧ u = u' ∧ n = n' :=
  Split.mk.inj ((split_print_roundtrip p u n h).symm.trans (heq ▸ split_print_roundtrip p' u' n' h'))

theorem isSI_mk (p u n : Str) (h : WF p u n) : isSIUnit (mk p u n) = true := by
  obtain ⟨hp, hu, hn⟩ := h
  have hne : u ≠ [] := alts_nonempty u (by simp [hu])
  -- the head matches UNITS or PREFIX UNIT; with a power behind it, the same pattern with POWER matches the whole
  have hat : matchU (p ++ u) = true ∨ matchPU (p ++ u) = true := by
    rcases hp with rfl | hp
    · exact .inl (matchU_self hu)
    · exact .inr (matchPU_append hp hu)
  by_cases hn0 : n = []
  · rcases hat with h | h <;> simp [mk, hn0, isSIUnit, isAtomicSIUnit, h, hne]
  · have hn' := hn.resolve_left hn0
    have hc := head_no_caret hp hu
    rw [mk_power p u hn0, isSIUnit, isAtomicSIUnit, matchUP_power hc hn' caret_not_in_unit,
      matchPUP_power hc hn' caret_not_in_prefix caret_not_in_unit]
    rcases hat with h | h <;> simp [h]

/-- scalability is symmetric (for all strings) -/
theorem scalable_symm (a b : Str) : isScalable a b = isScalable b a := by
  simp only [isScalable]
  rw [Bool.and_comm (isSIUnit a), Bool.beq_comm (a := (splitUnit a).unit), Bool.beq_comm (a := (splitUnit a).power)]

/-- different base unit or different power ⇒ not scalable -/
theorem scalable_iff_same_base_and_power (p1 u1 n1 p2 u2 n2 : Str) (h1 : WF p1 u1 n1) (h2 : WF p2 u2 n2) :
    isScalable (mk p1 u1 n1) (mk p2 u2 n2) = true ↔ (u1 = u2 ∧ n1 = n2) := by
  unfold isScalable
  simp [isSI_mk _ _ _ h1, isSI_mk _ _ _ h2, split_print_roundtrip _ _ _ h1, split_print_roundtrip _ _ _ h2]

theorem scalable_mk (p1 p2 u n : Str) (h1 : WF p1 u n) (h2 : WF p2 u n) : isScalable (mk p1 u n) (mk p2 u n) = true :=
  (scalable_iff_same_base_and_power p1 u n p2 u n h1 h2).mpr ⟨rfl, rfl⟩

/-- non-SI units are rejected -/
theorem nonSI_rejected (tbl : List (String × Int)) (a b : Str) (h : isSIUnit a = false ∨ isSIUnit b = false) :
    siScalingExp tbl a b = .error .invalidUnit := by
  unfold siScalingExp isScalable
  rcases h with h | h <;> simp [h]

/-- the exponent table in the source is the SI table -/
theorem prefix_table_correct : ∀ p ∈ Gen.prefixes, prefixExp libTable p.toList = siExp p := by decide +kernel

def specPrefixExp (p : Str) : Option Int := siExp (String.ofList p)
def specPower (n : Str) : Option Int := if n = [] then some 1 else parsePower n

theorem prefix_known : ∀ s ∈ Gen.prefixes, (siExp s).isSome = true := by decide +kernel

theorem table_lookup : ∀ p ∈ prefixAlts, prefixExp libTable p = specPrefixExp p ∧ (specPrefixExp p).isSome = true := by
  intro p hp
  obtain ⟨s, hs, rfl⟩ := List.mem_map.mp hp
  rw [specPrefixExp, String.ofList_toList]
  exact ⟨prefix_table_correct s hs, prefix_known s hs⟩

theorem isDigit_of_19 (d : Char) (h1 : '1' ≤ d) (h2 : d ≤ '9') : isDigit d = true := by
  simp only [isDigit, Bool.and_eq_true, decide_eq_true_eq]
  exact ⟨Char.le_trans (by decide) h1, h2⟩

theorem parsePower_wf (n : Str) (h : matchPower ('^' :: n) = true) : ∃ v, parsePower n = some v := by
  unfold matchPower at h
  simp only at h
  unfold parsePower
  generalize (stripSign n).2 = ds at h
  generalize (stripSign n).1 = neg
  cases ds with
  | nil => cases h
  | cons d ds' =>
    simp only [Bool.and_eq_true, decide_eq_true_eq] at h
    have hd := isDigit_of_19 d h.1.1 h.1.2
    simp [hd, h.2]

def pexp (p : Str) : Int := (if p = [] then some 0 else specPrefixExp p).getD 0
def pw (n : Str) : Int := (specPower n).getD 0

theorem pexp_spec {p : Str} (hp : p = [] ∨ p ∈ prefixAlts) :
    (if p = [] then some 0 else specPrefixExp p) = some (pexp p) ∧
    (if p.isEmpty then some 0 else prefixExp libTable p) = some (pexp p) := by
  rcases hp with rfl | hp
  · exact ⟨rfl, rfl⟩
  · have hne : p ≠ [] := alts_nonempty p (by simp [hp])
    obtain ⟨ht, hs⟩ := table_lookup p hp
    obtain ⟨e, he⟩ := Option.isSome_iff_exists.mp hs
    simp [pexp, hne, ht, he]

theorem pw_spec {n : Str} (hn : n = [] ∨ matchPower ('^' :: n) = true) : specPower n = some (pw n) := by
  unfold pw
  by_cases hn0 : n = []
  · simp [specPower, hn0]
  · obtain ⟨v, hv⟩ := parsePower_wf n (hn.resolve_left hn0)
    simp [specPower, hn0, hv]

/-- the factor from `p1 u^n` to `p2 u^n` is 10^(n · (exp p1 − exp p2)), with the SI exponents -/
theorem siScalingExp_mk {p1 p2 u n : Str} (h1 : WF p1 u n) (h2 : WF p2 u n) :
    siScalingExp libTable (mk p1 u n) (mk p2 u n) = .ok (pw n * (pexp p1 - pexp p2)) := by
  have hv := pw_spec h1.2.2
  unfold siScalingExp
  rw [scalable_mk p1 p2 u n h1 h2, split_print_roundtrip _ _ _ h1, split_print_roundtrip _ _ _ h2]
  simp only [Bool.not_true, Bool.false_eq_true, if_false, beq_self_eq_true, Bool.and_true, (pexp_spec h1.1).2, (pexp_spec h2.1).2]
  by_cases hpp : p1 = p2
  · simp [hpp]
  · by_cases hn0 : n = []
    · subst hn0
      simp [hpp, pw, specPower]
    · simp only [specPower, hn0, if_false] at hv
      simp [hpp, hn0, hv, Int.mul_comm]

theorem scaling_exponent (p1 p2 u n : Str) (h1 : WF p1 u n) (h2 : WF p2 u n) :
    ∃ e1 e2 v, (if p1 = [] then some 0 else specPrefixExp p1) = some e1 ∧
      (if p2 = [] then some 0 else specPrefixExp p2) = some e2 ∧ specPower n = some v ∧
      siScalingExp libTable (mk p1 u n) (mk p2 u n) = .ok (v * (e1 - e2)) :=
  ⟨_, _, _, (pexp_spec h1.1).1, (pexp_spec h2.1).1, pw_spec h1.2.2, siScalingExp_mk h1 h2⟩

/-- a→b and b→a are reciprocal: the exponents are opposite -/
theorem scaling_reciprocal (p1 p2 u n : Str) (h1 : WF p1 u n) (h2 : WF p2 u n) :
    ∃ k, siScalingExp libTable (mk p1 u n) (mk p2 u n) = .ok k ∧
         siScalingExp libTable (mk p2 u n) (mk p1 u n) = .ok (-k) :=
  ⟨_, siScalingExp_mk h1 h2, by rw [siScalingExp_mk h2 h1, ← Int.mul_neg, Int.neg_sub]⟩

/-- a→b→c composes to a→c: the exponents add -/
theorem scaling_compose (p1 p2 p3 u n : Str) (h1 : WF p1 u n) (h2 : WF p2 u n) (h3 : WF p3 u n) :
    ∃ k12 k23, siScalingExp libTable (mk p1 u n) (mk p2 u n) = .ok k12 ∧
      siScalingExp libTable (mk p2 u n) (mk p3 u n) = .ok k23 ∧
      siScalingExp libTable (mk p1 u n) (mk p3 u n) = .ok (k12 + k23) :=
  ⟨_, _, siScalingExp_mk h1 h2, siScalingExp_mk h2 h3, by
    rw [siScalingExp_mk h1 h3, ← Int.mul_add]; congr 2; omega⟩

/-! ### non-vacuity: concrete well-formed units and their factors -/
instance (p u n : Str) : Decidable (WF p u n) := by unfold WF; infer_instance
example : WF "m".toList "s".toList [] ∧ WF "u".toList "s".toList [] ∧ WF "m".toList "mol".toList "-2".toList := by decide +kernel
example : (siScalingExp libTable "ms".toList "us".toList).toOption = some 3 := by decide +kernel
example : (siScalingExp libTable "mmol^2".toList "mol^2".toList).toOption = some (-6) := by decide +kernel
example : splitUnit "daL^-3".toList = ⟨"da".toList, "L".toList, "-3".toList⟩ := by decide +kernel
example : (siScalingExp libTable "mV".toList "ms".toList).toOption = none := by decide +kernel

end Nix.C18
