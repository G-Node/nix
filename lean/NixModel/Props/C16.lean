import NixModel.Props.C06
import NixModel.Step
/-
  C16 — no undefined behaviour: what a model can carry.

  A Lean model cannot observe memory.  It can carry the INDEX ARITHMETIC: in `Region.lean` the raw C++ accesses `dims[i]`,
  `position[i]`, `max_extents[i]`, `my_start[i]`, `my_end[i]`, `positions_row[i]`, `extents_row[i]` are optional accesses whose
  `none` case stands for "reads outside the vector" (`extent[i]` and `units[i]` are total in the model — `TagIn.extentAt`, `TagIn.unitAt` read a missing entry as
  zero / the dimension's own unit — and no theorem speaks of them).  The theorems show, for every rank, every argument vector length and every
  dimension index the three retrieval loops visit, that those cases are never reached; and, for the store model, that an uninitialised or stale array handle given to createMultiTag /
  createFeature is answered with UninitializedEntity before anything is touched.
  Everything else the property says (the compiled library never crashes, whatever the misuse) is the tie's: the abuse
  programs of checks/C16.py on the ASan + UBSan build.
-/
namespace Nix.C16
open Nix Nix.C05

variable {α : Type} [Scalar α]

theorem getElem?_range_lt {n i : Nat} (h : i < n) : (List.range n)[i]? = some i :=
  List.getElem?_range h

theorem maximumExtents_length (dims : List (DimDesc α)) (shape : List Nat) (r : List (α × α)) (h : maximumExtents dims shape = .ok r) :
    r.length = dims.length := by
  unfold maximumExtents at h
  obtain ⟨hl, _⟩ := mapExcept_ok _ _ _ h
  simpa using hl

/-- getOffsetAndCount(Tag): every vector access of the per-dimension loop is inside its vector -/
theorem tag_accesses_in_bounds (t : TagIn α) (maxExt : List (α × α)) (hm : t.maxExt = .ok maxExt) (i : Nat) (hi : i < t.dims.length) :
    (t.dims[i]?).isSome = true ∧ (i < t.specified → (t.position[i]?).isSome = true) ∧
    (¬ i < t.specified → (maxExt[i]?).isSome = true) := by
  refine ⟨by simp [hi], ?_, ?_⟩
  · intro hs
    have : i < t.position.length := by unfold TagIn.specified at hs; omega
    simp [this]
  · intro hs
    have hp : t.position.length < t.dims.length := by unfold TagIn.specified at hs; omega
    unfold TagIn.maxExt at hm
    rw [if_pos hp] at hm
    have : i < maxExt.length := by rw [maximumExtents_length t.dims t.shape maxExt hm]; exact hi
    simp [this]

set_option linter.unusedSectionVars false in
/-- dataSlice after fillPositionsExtentsAndUnits: a start / end entry the caller did not give is read only from the filled-in copy
    (false of the pinned tree: D3) -/
theorem slice_accesses_in_bounds (t : SliceIn α) (i : Nat) (hi : i < t.dims.length) :
    (t.dims[i]?).isSome = true ∧ ((t.starts[i]?).isNone = true → t.needFill = true) ∧ ((t.ends[i]?).isNone = true → t.needFill = true) := by
  -- an entry missing at `i` means that vector is shorter than the rank
  have short : ∀ l : List α, (l[i]?).isNone = true → l.length < t.dims.length := fun l h => by
    have : l.length ≤ i := by simpa using h
    omega
  unfold SliceIn.needFill
  exact ⟨by simp [hi], fun h => by simp [short _ h], fun h => by simp [short _ h]⟩

theorem fillStart_error (d : DimDesc α) (x : Err) (h : fillStart d = .error x) : x = .outOfBounds := by
  cases d <;> simp only [fillStart] at h <;> (try split at h) <;> cases h <;> rfl

theorem fillEnd_error (d : DimDesc α) (n : Nat) (x : Err) (h : fillEnd d n = .error x) : x = .outOfBounds := by
  cases d <;> simp only [fillEnd] at h <;> (try split at h) <;> cases h <;> rfl

theorem ite_ok {c : Prop} [Decidable c] {ε β : Type} {a b : Except ε β} (ha : ∃ r, a = .ok r) (hb : ∃ r, b = .ok r) :
    ∃ r, (if c then a else b) = .ok r := by
  split <;> assumption

/-- `outOfBounds`: a missing start / end cannot be filled in (a range dimension short of ticks) -/
theorem slice_arg_error (t : SliceIn α) (i : Nat) (hi : i < t.dims.length) (x : Err) (h : t.arg i = .error x) : x = .outOfBounds := by
  obtain ⟨_, hs, he⟩ := slice_accesses_in_bounds t i hi
  unfold SliceIn.arg at h
  rw [List.getElem?_eq_getElem hi] at h
  dsimp only at h
  split at h
  · rename_i y hy
    cases h
    split at hy
    · cases hy
    · rename_i hsi
      rw [if_pos (hs (by rw [hsi]; rfl))] at hy
      exact fillStart_error _ _ hy
  · split at h
    · rename_i y hy
      cases h
      split at hy
      · cases hy
      · rename_i hei
        rw [if_pos (he (by rw [hei]; rfl))] at hy
        exact fillEnd_error _ _ _ hy
    · -- start and end resolved: every leaf of what follows is an `.ok`
      have ok : ∀ {A : Except Err (DimDesc α × α × α × String × RangeMatch)}, (∃ r, A = .ok r) → A = .error x → False :=
        fun ⟨r, hr⟩ h => by rw [hr] at h; cases h
      refine (ok (ite_ok ⟨_, rfl⟩ (ite_ok ?_ ⟨_, rfl⟩)) h).elim
      split
      · exact ite_ok ⟨_, rfl⟩ ⟨_, rfl⟩
      · exact ⟨_, rfl⟩

/-- consequently `SliceIn.arg` never takes its "raw access outside the vector" branches -/
theorem slice_arg_no_raw_overrun (t : SliceIn α) (i : Nat) (hi : i < t.dims.length) (h : t.arg i = .error .stdOutOfRange) : False :=
  nomatch slice_arg_error t i hi _ h

/-- getOffsetAndCount(MultiTag): every vector access of the assembly loop is inside its vector, given that positions and extents rows
    have the same length (what `MultiTag::extents` enforces) -/
theorem mtag_accesses_in_bounds (t : MTagIn α) (maxIndex : Nat) (maxExt : List (α × α)) (hp : t.prepare maxIndex = .ok maxExt)
    (idx i : Nat) (hi : i < t.dims.length) (hrows : (t.extRow idx).length = (t.posRow idx).length) :
    (t.dims[i]?).isSome = true ∧ (t.unitsPadded[i]?).isSome = true ∧
    (i < min (t.posRow idx).length t.dims.length → ((t.posRow idx)[i]?).isSome = true ∧ ((t.extRow idx)[i]?).isSome = true) ∧
    (¬ i < min (t.posRow idx).length t.dims.length → (maxExt[i]?).isSome = true) := by
  refine ⟨by simp [hi], ?_, ?_, ?_⟩
  · have : i < t.unitsPadded.length := by
      unfold MTagIn.unitsPadded; simp; omega
    simp [this]
  · intro h
    have h1 : i < (t.posRow idx).length := by omega
    have h2 : i < (t.extRow idx).length := by omega
    simp [h1, h2]
  · intro _
    have hm := (C06.prepare_ok t maxIndex maxExt hp).1
    unfold MTagIn.maxExt0 at hm
    rw [if_pos (by omega)] at hm
    have := maximumExtents_length _ _ _ hm
    have : i < maxExt.length := by omega
    simp [this]

end Nix.C16

namespace Nix.St

/-- an uninitialised or stale positions handle is refused before anything is looked up or created -/
theorem createMultiTag_uninitialised (s : Store) (b : ObjId) (n t i c : String) (ph : Option Handle)
    (hc : checkNameAndType n t = .ok ()) (hv : validHandle s ph = false) :
    createMultiTag s b n t i c ph = (s, .error .uninitializedEntity) := by
  unfold createMultiTag; simp [hc, hv]

theorem createFeature_uninitialised (s : Store) (tag b : ObjId) (i c lt : String) (dh : Option Handle)
    (hv : validHandle s dh = false) : createFeature s tag b i c lt dh = (s, .error .uninitializedEntity) := by
  unfold createFeature; simp [hv]

theorem validHandle_none (s : Store) : validHandle s none = false := rfl

end Nix.St
