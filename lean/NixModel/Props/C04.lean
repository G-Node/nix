import NixModel.Proofs.Unlinks
/-
  C04 — deleting an entity leaves no dangling reference and harms nothing else.

  In the store model every delete entry point (blocks, sections and sources with their whole subtree, data arrays, data
  frames, tags, multi tags, groups) does ONE kind of thing to the store: it removes, in every object, the links whose target
  lies in some set D of deleted objects (`delete_only_unlinks`), all of them below the container it searched
  (`Unlinks`, `Below`, `deleteBlock_unlinks_below` … `removeEntity_unlinks_below`).  Consequently
  * no object keeps a link to a deleted object, so no path from anywhere reaches it (`unlinkAll_unreachable`) — whatever holder
    pointed to it (tag / multi-tag references, positions / extents, feature data, group members, attached sources, metadata,
    section links, alias dimensions: all of them are hard links);
  * every object keeps its attributes and its kind, and its links except those into D, in their old order
    (`unlinkAll_frame`): "every entity that was not deleted is left exactly as it was";
  * when the entry point answers `true`, what the container links under the name of the entity it looked up is in D
    (`deleteNested_victim`, `removeEntity_spec`, `deleteBlock_spec`).
-/
namespace Nix.St
open Store

theorem unlinkAll_no_incoming (s : Store) (D : List ObjId) (o d : ObjId) (n : String) (hd : d ∈ D) :
    (n, d) ∉ (s.unlinkAll D).linksOf o := by
  rw [linksOf_unlinkAll]
  simp [hd]

theorem unlinkAll_refCount (s : Store) (D : List ObjId) (d : ObjId) (hd : d ∈ D) : (s.unlinkAll D).refCount d = 0 := by
  unfold Store.refCount Store.unlinkAll
  rw [List.sum_eq_zero_iff_forall_eq_nat]
  intro x hx
  simp only [List.map_map, List.mem_map, Function.comp] at hx
  obtain ⟨ob, _, rfl⟩ := hx
  -- a link that survived the first filter does not lead into D, one that passes the second leads to d
  rw [List.length_eq_zero_iff, List.filter_filter, List.filter_eq_nil_iff]
  intro l _ hl
  simp only [Bool.and_eq_true, beq_iff_eq] at hl
  rw [hl.1] at hl
  simp [hd] at hl

/-- **deleted_handle_reports_invalid** — C04: "handles to it report themselves invalid": whatever handle still wraps a deleted
    object (the victim, anything of its subtree), `isValidEntity` answers false after the delete — for EVERY store and every set of
    deleted objects, hence for every delete entry point (`delete_only_unlinks`) -/
theorem deleted_handle_reports_invalid (s : Store) (D : List ObjId) (d : ObjId) (hd : d ∈ D) :
    isValidEntity (s.unlinkAll D) d = false := by
  simp [isValidEntity, unlinkAll_refCount s D d hd]

theorem deleted_handle_refused (s : Store) (D : List ObjId) (h : Handle) (hd : h.obj ∈ D) : validHandle (s.unlinkAll D) (some h) = false := by
  simp [validHandle, deleted_handle_reports_invalid s D h.obj hd]

/-- "no dangling reference": after the delete, a deleted object is reachable from nothing but itself -/
theorem unlinkAll_unreachable (s : Store) (D : List ObjId) (a d : ObjId) (hd : d ∈ D) (h : Reach (s.unlinkAll D) a d) : a = d := by
  cases h with
  | refl => rfl
  | step n _ hl => exact absurd hl (unlinkAll_no_incoming s D _ d n hd)

theorem deleteNested_unlinks (cname : String) (fuel : Nat) (s : Store) (c : ObjId) (key : String) :
    ∃ D, (deleteNested cname fuel s c key).1 = s.unlinkAll D :=
  let ⟨D, _, e⟩ := deleteNested_unlinks_below cname fuel s c key; ⟨D, e⟩

/-- the recursive delete, when it answers `true`: the entity found under the key is `v`, and the object `t` that the parent's
    container links under v's name — `v` itself whenever links carry the entity's name — is among the unlinked ones -/
theorem deleteNested_victim (cname : String) (fuel : Nat) (s : Store) (c : ObjId) (key : String)
    (h : (deleteNested cname fuel s c key).2 = true) :
    ∃ v t D, s.findGroupByNameOrAttribute c "entity_id" key = some v ∧ (nameOf s v, t) ∈ s.linksOf c ∧ t ∈ D ∧
      (deleteNested cname fuel s c key).1 = s.unlinkAll D := by
  cases fuel with
  | zero => simp [deleteNested] at h
  | succ f =>
    unfold deleteNested at h ⊢
    split at h
    · simp at h
    · rename_i v hv
      simp only [hv]
      obtain ⟨m, hm⟩ := findGroup_mem hv
      obtain ⟨D1, p1, hD1⟩ := afterKids_unlinks (rec := deleteNested cname f) (cname := cname) (Reach.step m (.refl c) hm)
        (deleteNested_unlinks_below cname f)
      rcases removeAllLinks_spec (afterKids (deleteNested cname f) s v cname) c (nameOf s v) with ⟨hf, _⟩ | ⟨t, ht, _, hs⟩
      · rw [hf] at h; simp at h
      · exact ⟨v, t, D1 ++ [t], rfl, Unlinks.links ⟨D1, p1, hD1⟩ (child?_mem ht), by simp, by rw [hs, hD1, unlinkAll_unlinkAll]⟩

theorem removeEntity_spec (s : Store) (blk : ObjId) (kind iname iid : String) :
    ((removeEntity s blk kind iname iid).2 = false ∧ (removeEntity s blk kind iname iid).1 = s) ∨
    (∃ p e t, s.optGroup blk (blockContainer kind) = some p ∧ blkFind s blk kind iname iid = some e ∧
        s.child? p (nameOf s e) = some t ∧ (removeEntity s blk kind iname iid).2 = true ∧
        (removeEntity s blk kind iname iid).1 = s.unlinkAll [t]) := by
  unfold removeEntity
  split
  · rename_i p e hp he
    rcases removeAllLinks_spec s p (nameOf s e) with h | ⟨t, ht, h2, h1⟩
    · exact .inl h
    · exact .inr ⟨p, e, t, hp, he, ht, h2, h1⟩
  · exact .inl ⟨rfl, rfl⟩

theorem deleteBlock_spec (s : Store) (key : String) :
    ((deleteBlock s key).2 = false ∧ (deleteBlock s key).1 = s) ∨
    (∃ b t, s.findGroupByNameOrAttribute dataGrp "entity_id" key = some b ∧ s.child? dataGrp (nameOf s b) = some t ∧
        (deleteBlock s key).2 = true ∧ (deleteBlock s key).1 = s.unlinkAll [t]) := by
  unfold deleteBlock
  split
  · exact .inl ⟨rfl, rfl⟩
  · rename_i b hb
    rcases removeAllLinks_spec s dataGrp (nameOf s b) with h | ⟨t, ht, h2, h1⟩
    · exact .inl h
    · exact .inr ⟨b, t, hb, ht, h2, h1⟩

/-- every delete entry point only removes links into a set of deleted objects -/
theorem delete_only_unlinks (s : Store) :
    (∀ k, ∃ D, (deleteBlock s k).1 = s.unlinkAll D) ∧
    (∀ p k, ∃ D, (deleteSection s p k).1 = s.unlinkAll D) ∧
    (∀ p k, ∃ D, (deleteSubSource s p k).1 = s.unlinkAll D) ∧
    (∀ b k, ∃ D, (deleteBlockSource s b k).1 = s.unlinkAll D) ∧
    (∀ b kd n i, ∃ D, (removeEntity s b kd n i).1 = s.unlinkAll D) := by
  have of {P : ObjId → Prop} {s' : Store} (h : Unlinks P s s') : ∃ D, s' = s.unlinkAll D := let ⟨D, _, e⟩ := h; ⟨D, e⟩
  exact ⟨fun k => of (deleteBlock_unlinks_below s k), fun p k => of (deleteSection_unlinks_below s p k),
    fun p k => of (deleteSubSource_unlinks_below s p k), fun b k => of (deleteBlockSource_unlinks_below s b k),
    fun b kd n i => of (removeEntity_unlinks_below s b kd n i)⟩

/-- the deleted array is exposed by nobody: whatever linked it — references, positions, extents, feature data, group
    membership, an alias dimension — the link is gone, and nothing else changed -/
theorem removeEntity_no_dangling (s : Store) (blk : ObjId) (kind iname iid : String) (p e : ObjId)
    (hp : s.optGroup blk (blockContainer kind) = some p) (he : blkFind s blk kind iname iid = some e)
    (hname : s.child? p (nameOf s e) = some e) (hgrp : s.hasGroup p (nameOf s e) = true) :
    let s' := (removeEntity s blk kind iname iid).1
    (removeEntity s blk kind iname iid).2 = true ∧
    (∀ o n, (n, e) ∉ s'.linksOf o) ∧ (∀ a, Reach s' a e → a = e) ∧
    (∀ o, s'.linksOf o = (s.linksOf o).filter (fun l => l.2 != e) ∧ (∀ k, s'.attr? o k = s.attr? o k)) := by
  have h1 : removeEntity s blk kind iname iid = (s.unlinkAll [e], true) := by
    simp [removeEntity, hp, he, removeAllLinks, hname, hgrp, removeAllLinksTo_eq]
  rw [h1]
  refine ⟨rfl, fun o n => unlinkAll_no_incoming s [e] o e n (by simp), fun a ha => unlinkAll_unreachable s [e] a e (by simp) ha,
    fun o => ⟨?_, attr?_unlinkAll s [e] o⟩⟩
  rw [linksOf_unlinkAll]
  simp only [List.contains_cons, List.contains_nil, Bool.or_false, bne]

/-- the other way of "removing": unlinking ONE name in ONE group (removeReference, removeSource, group members, metadata(none),
    link(none), extents(none), deleteProperty; in the driver also deleteFeature) touches that group's links of that name and nothing else -/
theorem unlink_frame (s : Store) (g : ObjId) (n : String) (o : ObjId) :
    (s.unlink g n).linksOf o = (if o = g then (s.linksOf o).filter (·.1 != n) else s.linksOf o) ∧
    (∀ k, (s.unlink g n).attr? o k = s.attr? o k) :=
  ⟨linksOf_unlink s g n o, attr?_unlink s g n o⟩

/-- non-vacuity: a block with an array that a tag references; deleting the array by name meets the hypotheses of
    `removeEntity_no_dangling`, answers true, and the tag's reference list is empty afterwards -/
example :
    let s0 := newFile "f" "0" "xnix" "[1,2,0]"
    let s1 := (createBlock s0 "b" "xt" "11111111-1111-1111-1111-111111111111" "1").1      -- block group = 3
    let s2 := (createDataArray s1 3 "a" "xt" "22222222-2222-2222-2222-222222222222" "1" "Double" "[2]").1   -- container 4, array 5
    let s3 := (createTag s2 3 "t" "xt" "33333333-3333-3333-3333-333333333333" "1" "[]").1                   -- container 6, tag 7
    let s4 := (addReference s3 7 3 "a").1
    s4.optGroup 3 (blockContainer "A") = some 4 ∧ blkFind s4 3 "A" "a" "" = some 5 ∧ s4.child? 4 (nameOf s4 5) = some 5 ∧
    s4.hasGroup 4 (nameOf s4 5) = true ∧ childIds s4 7 "references" = ["22222222-2222-2222-2222-222222222222"] ∧
    (removeEntity s4 3 "A" "a" "").2 = true ∧ childIds (removeEntity s4 3 "A" "a" "").1 7 "references" = [] := by
  decide +kernel

end Nix.St
