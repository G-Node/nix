import NixModel.Spec.C15
/-
  C15 — DataFrame cells.  Property theorems about the frame model of lean/NixModel/DataFrame.lean, for every cell
  token type `V`, every fill function `zero`, every numeric member conversion `conv` and every history.
-/
namespace Nix.C15
open Nix Nix.PV Nix.DF

variable {V : Type} (zero : DType → V) (conv : DType → DType → V → V)

/-- **resize_preserves_surviving** — `rows(n)`: the schema stays, rows below both counts keep every cell, every other
    row reads as the fill value of its column -/
theorem resize_preserves_surviving (f : Frame V) (n : Nat) :
    (f.setRows zero n).cols = f.cols ∧ (f.setRows zero n).nrows = n ∧
    (∀ r c, r < n → r < f.nrows → (f.setRows zero n).get r c = f.get r c) ∧
    (∀ r c, (r ≥ n ∨ r ≥ f.nrows) → (f.setRows zero n).get r c = zero (f.colType c)) := by
  refine ⟨rfl, rfl, ?_, ?_⟩
  · intro r c h1 h2; simp [Frame.setRows, h1, h2]
  · intro r c h
    have : ¬ (r < n ∧ r < f.nrows) := by omega
    simp [Frame.setRows, this]

/-- what was cut off does not come back: shrink, then grow -/
theorem shrink_then_grow_zero (f : Frame V) (small big : Nat) (r c : Nat) (h : r ≥ small) :
    ((f.setRows zero small).setRows zero big).get r c = zero (f.colType c) :=
  (resize_preserves_surviving zero (f.setRows zero small) big).2.2.2 r c (.inr h)

theorem ok_of_guard {β : Type} {c : Prop} [Decidable c] {e : Err} {x : Except Err β} {y : β}
    (h : (if c then .error e else x) = .ok y) : ¬ c ∧ x = .ok y := by
  split at h
  · cases h
  · exact ⟨‹_›, h⟩

theorem writeCells_ok (f f' : Frame V) (row : Nat) (cells : List (Ref × Variant V)) (h : f.writeCells conv row cells = .ok f') :
    ∃ rc, f.resolve [] cells = .ok rc ∧ row < f.nrows ∧ f' = f.setCells conv row rc := by
  obtain ⟨_, h⟩ := ok_of_guard h
  obtain ⟨_, h⟩ := ok_of_guard h
  split at h
  · cases h
  · obtain ⟨h3, h⟩ := ok_of_guard h
    obtain ⟨_, h⟩ := ok_of_guard h
    exact ⟨_, ‹_›, by omega, (Except.ok.inj h).symm⟩

theorem colIndex_lt (f : Frame V) (name : String) (c : Nat) (h : f.colIndex name = some c) : c < f.ncols := by
  unfold Frame.colIndex at h
  split at h
  · rename_i hi; simp only [Option.some.injEq] at h; subst h; exact hi
  · cases h

theorem writeColumn_ok (f f' : Frame V) (ref : Ref) (ty : DType) (vals : List V) (offset count : Nat)
    (h : f.writeColumn conv ref ty vals offset count = .ok f') :
    ∃ name c, f.refName ref = .ok name ∧ f.colIndex name = some c ∧ c < f.ncols ∧ effCount count vals.length ≤ vals.length ∧
      ((effCount count vals.length = 0 ∧ f' = f) ∨
       (effCount count vals.length > 0 ∧ offset + effCount count vals.length ≤ f.nrows ∧
        f' = f.setColumn conv c ty offset (effCount count vals.length) vals)) := by
  unfold Frame.writeColumn at h
  split at h
  · cases h
  obtain ⟨hcnt, h⟩ := ok_of_guard h
  have hle : effCount count vals.length ≤ vals.length := by unfold effCount; split <;> omega
  split at h
  · cases h
  refine ⟨_, _, ‹_›, ‹_›, colIndex_lt f _ _ ‹_›, hle, ?_⟩
  by_cases h0 : effCount count vals.length = 0
  · exact .inl ⟨h0, (Except.ok.inj ((if_pos h0).symm.trans h)).symm⟩
  · obtain ⟨hin, h⟩ := ok_of_guard ((if_neg h0).symm.trans h)
    obtain ⟨_, h⟩ := ok_of_guard h
    exact .inr ⟨by omega, by omega, (Except.ok.inj h).symm⟩

theorem readRow_spec (f : Frame V) (row : Nat) (vs : List (Variant V)) (h : f.readRow row = .ok vs) :
    row < f.nrows ∧ vs = (List.range f.ncols).map fun c => { ty := f.colType c, val := f.get row c } := by
  obtain ⟨hr, h⟩ := ok_of_guard h
  exact ⟨by omega, (Except.ok.inj h).symm⟩

theorem readCells_spec (f : Frame V) (row : Nat) (names : List String) (l : List (String × Variant V))
    (h : f.readCells row names = .ok l) :
    row < f.nrows ∧ (∀ n ∈ names, (f.colIndex n).isSome) ∧
    l = names.map fun n => (n, { ty := f.colType ((f.colIndex n).getD 0), val := f.get row ((f.colIndex n).getD 0) }) := by
  obtain ⟨hany, h⟩ := ok_of_guard h
  obtain ⟨_, h⟩ := ok_of_guard h
  obtain ⟨_, h⟩ := ok_of_guard h
  obtain ⟨hr, h⟩ := ok_of_guard h
  refine ⟨by omega, fun n hn => ?_, (Except.ok.inj h).symm⟩
  cases hc : f.colIndex n with
  | some c => rfl
  | none => exact absurd (List.any_eq_true.2 ⟨n, hn, by rw [hc]; rfl⟩) hany

theorem readColumnRaw_spec (f : Frame V) (name : String) (ty : DType) (buf out : List V) (count offset : Nat)
    (h : f.readColumnRaw conv name ty buf count offset = .ok out) :
    ∃ c, f.colIndex name = some c ∧
      ((count = 0 ∧ out = buf) ∨ (count > 0 ∧ offset + count ≤ f.nrows ∧
        out = (List.range count).map (fun i => convert conv (f.colType c) ty (f.get (offset + i) c)) ++ buf.drop count)) := by
  unfold Frame.readColumnRaw at h
  split at h
  · cases h
  refine ⟨_, ‹_›, ?_⟩
  by_cases h0 : count = 0
  · exact .inl ⟨h0, (Except.ok.inj ((if_pos h0).symm.trans h)).symm⟩
  · obtain ⟨hin, h⟩ := ok_of_guard ((if_neg h0).symm.trans h)
    obtain ⟨_, h⟩ := ok_of_guard h
    exact .inr ⟨by omega, by omega, (Except.ok.inj h).symm⟩

/-- **column_oob_rejected** — a column index past the last column, or a name the schema does not have, is refused by
    every access path (and, the mutators being all-or-nothing, nothing changes) -/
theorem column_oob_rejected (f : Frame V) (i : Nat) (hi : i ≥ f.ncols) (name : String) (hn : f.colIndex name = none)
    (hne : name.isEmpty = false) (row : Nat) (v : Variant V) (hv : v.ty.isValueType = true) (ty : DType) (vals buf : List V) (off cnt : Nat)
    (rs : Bool) :
    f.colName i = .error .other ∧
    f.writeCells conv row [(.idx i, v)] = .error .other ∧
    f.writeCells conv row [(.name name, v)] = .error .h5Error ∧
    f.readCell zero row (.idx i) = .error .other ∧
    f.readCell zero row (.name name) = .error .h5Error ∧
    f.readCells row [name] = .error .h5Error ∧
    (cnt ≤ vals.length → f.writeColumn conv (.name name) ty vals off cnt = .error .h5Error) ∧
    f.writeColumn conv (.idx i) ty vals off cnt = .error .other ∧
    f.readColumn zero conv (.idx i) ty buf rs off = .error .other ∧
    f.readColumnRaw conv name ty buf cnt off = .error .h5Error := by
  have hcn : f.colName i = .error .other := by unfold Frame.colName; rw [List.getElem?_eq_none hi]
  have hvv : (!v.ty.isValueType) = false := by simp [hv]
  refine ⟨hcn, ?_, ?_, ?_, ?_, ?_, ?_, ?_, ?_, ?_⟩
  · simp [Frame.writeCells, hvv, Frame.resolve, Frame.cellName, hcn]
  · simp [Frame.writeCells, hvv, Frame.resolve, Frame.cellName, hne, hn]
  · simp [Frame.readCell, Frame.refName, hcn]
  · simp [Frame.readCell, Frame.refName, Frame.readCells, hn]
  · simp [Frame.readCells, hn]
  · intro hc
    have : ¬ cnt > vals.length := by omega
    simp [Frame.writeColumn, Frame.refName, this, hn]
  · simp [Frame.writeColumn, Frame.refName, hcn]
  · simp [Frame.readColumn, Frame.refName, hcn]
  · simp [Frame.readColumnRaw, hn]

/-- a row past the last row is refused by every access path -/
theorem row_oob_rejected (f : Frame V) (row : Nat) (hr : row ≥ f.nrows) (cells : List (Ref × Variant V)) (names : List String) :
    f.readRow row = .error .h5Error ∧ (∃ e, f.writeCells conv row cells = .error e) ∧ (∃ e, f.readCells row names = .error e) := by
  refine ⟨by simp [Frame.readRow, hr], ?_, ?_⟩
  · cases hw : f.writeCells conv row cells with
    | error e => exact ⟨e, rfl⟩
    | ok f' => obtain ⟨_, _, hlt, _⟩ := writeCells_ok conv f f' row cells hw; omega
  · cases hc : f.readCells row names with
    | error e => exact ⟨e, rfl⟩
    | ok l => have := (readCells_spec f row names l hc).1; omega

def frameOp : Op V → Frame V → Except Err (Frame V)
  | .setRows n, fr => .ok (fr.setRows zero n)
  | .writeRow row vals, fr => fr.writeRow conv row vals
  | .writeCells row cells, fr => fr.writeCells conv row cells
  | .writeColumn ref ty vals offset count, fr => fr.writeColumn conv ref ty vals offset count
  | _, fr => .ok fr

theorem step_eq_mutate (s : FSt V) (op : Op V) (hc : ∀ cs, op ≠ .create cs) (hw : ∀ w, op ≠ .reopen w) :
    step zero conv s op = s.mutate (frameOp zero conv op) := by
  cases op <;> first | rfl | exact absurd rfl (hc _) | exact absurd rfl (hw _)

theorem mutate_cases (s : FSt V) (g : Frame V → Except Err (Frame V)) :
    (∃ e, s.mutate g = (s, some e)) ∨
    ∃ f f', s.frame = some f ∧ g f = .ok f' ∧ s.writable = true ∧ s.mutate g = ({ s with frame := some f' }, none) := by
  unfold FSt.mutate
  iterate 2
    split
    · exact .inl ⟨_, rfl⟩
  split
  · exact .inr ⟨_, _, ‹_›, ‹_›, ‹_›, rfl⟩
  · exact .inl ⟨_, rfl⟩

/-- **a rejected call leaves no trace**: every mutator is all-or-nothing (a creation is not one: refused, it leaves a
    new file without a frame) -/
theorem rejected_call_leaves_no_trace (s : FSt V) (op : Op V) (e : Err) (hc : ∀ cs, op ≠ .create cs)
    (h : (step zero conv s op).2 = some e) : (step zero conv s op).1 = s := by
  by_cases hw : ∃ w, op = .reopen w
  · obtain ⟨w, rfl⟩ := hw; cases h
  · rw [step_eq_mutate zero conv s op hc fun w e => hw ⟨w, e⟩] at h ⊢
    obtain ⟨e', he⟩ | ⟨f, f', _, _, _, he⟩ := mutate_cases s (frameOp zero conv op) <;> rw [he] at h ⊢
    cases h

theorem readonly_changes_nothing (s : FSt V) (op : Op V) (hro : s.writable = false) (hc : ∀ cols, op ≠ .create cols)
    (hw : ∀ w, op ≠ .reopen w) : (step zero conv s op).1 = s := by
  rw [step_eq_mutate zero conv s op hc hw]
  obtain ⟨e', he⟩ | ⟨f, f', _, _, hwr, _⟩ := mutate_cases s (frameOp zero conv op)
  · rw [he]
  · rw [hro] at hwr; cases hwr

/-- the creation half of `schema_roundtrip`: an accepted creation yields exactly the given columns — names, units, types and
    order — with no rows -/
theorem create_schema (cols : List Col) (f : Frame V) (h : Frame.create zero cols = .ok f) :
    f.cols = cols ∧ f.nrows = 0 ∧ cols ≠ [] ∧ ∀ r c, f.get r c = zero (f.colType c) := by
  obtain ⟨hne, h⟩ := ok_of_guard h
  split at h
  · cases h
  · cases h
    exact ⟨rfl, rfl, fun hx => hne (by rw [hx]; rfl), fun r c => rfl⟩

/-- the cell list `writeRow` hands to `writeCells` -/
def rowCells (vals : List (Variant V)) : List (Ref × Variant V) :=
  (List.range vals.length).zip vals |>.map fun kv => (Ref.idx kv.1, kv.2)

/-- the event an accepted call is recorded as (exactly what the driver records for the implementation) -/
def evOf (cols : List Col) : Op V → Option (Ev V)
  | .create cs => some (.created cs)
  | .setRows n => some (.rows n)
  | .writeRow row vals => some (.cells row (resolvedCells cols (rowCells vals)))
  | .writeCells row cells => some (.cells row (resolvedCells cols cells))
  | .writeColumn ref ty vals offset count =>
    match resolveRef cols ref with
    | some c => if effCount count vals.length > 0 then some (.column c ty offset (vals.take (effCount count vals.length))) else none
    | none => none
  | .reopen w => some (.reopened w)

/-- a creation, accepted or refused, starts a new file and with it a new history (as in the driver) -/
def record (s : FSt V) (op : Op V) (h : List (Ev V)) : List (Ev V) :=
  match op with
  | .create cs => (match (step zero conv s op).2 with | none => [.created cs] | some _ => [])
  | _ =>
    match (step zero conv s op).2, evOf (schemaOf h) op with
    | none, some e => e :: h
    | _, _ => h

def runH : FSt V → List (Ev V) → List (Op V) → FSt V × List (Ev V)
  | s, h, [] => (s, h)
  | s, h, op :: ops => runH (step zero conv s op).1 (record zero conv s op h) ops

structure AgreeF (f : Frame V) (h : List (Ev V)) : Prop where
  unique : (f.cols.map (·.name)).Nodup
  schema : schemaOf h = f.cols
  rows : rowsAfter h = f.nrows
  cell : ∀ r c, f.get r c = lastCell zero conv f.cols h r c
  normal : ∀ r c, r ≥ f.nrows → f.get r c = zero (f.colType c)

def Agree (s : FSt V) (h : List (Ev V)) : Prop :=
  (∀ f, s.frame = some f → AgreeF zero conv f h) ∧ (s.frame = none → schemaOf h = []) ∧ writableAfter h = s.writable

/-- well-formed schema: what `Block::createDataFrame` guarantees -/
def UniqueNames (cols : List Col) : Prop := (cols.map (·.name)).Nodup

theorem checkCols_unique : ∀ (cols : List Col) (seen : List String), checkCols seen cols = none →
    UniqueNames cols ∧ ∀ c ∈ cols, c.name ∉ seen
  | [], _, _ => ⟨List.nodup_nil, fun _ h => by simp at h⟩
  | c :: rest, seen, h => by
    unfold checkCols at h
    iterate 3
      split at h
      · cases h
    obtain ⟨hu, hs⟩ := checkCols_unique rest (c.name :: seen) h
    refine ⟨List.nodup_cons.2 ⟨fun hm => ?_, hu⟩, fun c' hc' hin => ?_⟩
    · obtain ⟨c', hc', hn⟩ := List.mem_map.1 hm
      exact hs c' hc' (hn ▸ List.mem_cons_self)
    · rcases List.mem_cons.1 hc' with rfl | hr
      · exact ‹¬seen.contains c'.name = true› (by simpa using hin)
      · exact hs c' hr (List.mem_cons_of_mem _ hin)

theorem create_unique (cols : List Col) (f : Frame V) (h : Frame.create zero cols = .ok f) : UniqueNames cols := by
  obtain ⟨_, h⟩ := ok_of_guard h
  cases hk : checkCols [] cols with
  | some e => rw [hk] at h; cases h
  | none => exact (checkCols_unique cols [] hk).1

theorem colIndex_colName (f : Frame V) (hu : UniqueNames f.cols) (i : Nat) (name : String) (h : f.colName i = .ok name) :
    i < f.cols.length ∧ f.colIndex name = some i := by
  unfold Frame.colName at h
  split at h
  · rename_i col hg
    cases h
    obtain ⟨hil, rfl⟩ := List.getElem?_eq_some_iff.1 hg
    -- the first column called like the i-th is the i-th: `Nodup.idxOf_getElem` on the list of names
    have hidx : f.cols.findIdx (fun c => c.name == f.cols[i].name) = i := by
      have := hu.idxOf_getElem i (by rwa [List.length_map])
      rwa [List.getElem_map, List.idxOf, List.findIdx_map] at this
    exact ⟨hil, by unfold Frame.colIndex; rw [hidx, if_pos hil]⟩
  · cases h

theorem refName_sound (f : Frame V) (hu : UniqueNames f.cols) (ref : Ref) (name : String) (c : Nat)
    (hn : f.refName ref = .ok name) (hc : f.colIndex name = some c) : resolveRef f.cols ref = some c := by
  cases ref with
  | idx i =>
    obtain ⟨hil, hci⟩ := colIndex_colName f hu i name hn
    cases hci.symm.trans hc
    exact if_pos hil
  | name n => cases hn; exact hc

theorem cellName_sound (f : Frame V) (hu : UniqueNames f.cols) (ref : Ref) (name : String) (c : Nat)
    (hn : f.cellName ref = .ok name) (hc : f.colIndex name = some c) : resolveCellRef f.cols ref = some c := by
  cases ref with
  | idx i => exact refName_sound f hu (.idx i) name c hn hc
  | name n =>
    simp only [Frame.cellName, resolveCellRef] at hn ⊢
    split at hn
    · rw [if_pos ‹_›]; exact refName_sound f hu (.idx 0) name c hn hc
    · rw [if_neg ‹_›]; exact refName_sound f hu (.name n) name c hn hc

/-- the model's name / index resolution (through member names, as the C++ does it) is the one of Spec/C15.lean -/
theorem resolve_sound (f : Frame V) (hu : UniqueNames f.cols) : ∀ (cells : List (Ref × Variant V)) (seen : List String)
    (rc : List (Nat × Variant V)), f.resolve seen cells = .ok rc → rc = resolvedCells f.cols cells
  | [], _, rc, h => by cases h; rfl
  | (ref, v) :: rest, seen, rc, h => by
    unfold Frame.resolve at h
    split at h
    · cases h
    split at h
    · cases h
    obtain ⟨_, h⟩ := ok_of_guard h
    split at h
    · cases h
    cases h
    simp only [resolvedCells, List.filterMap_cons, cellName_sound f hu ref _ _ ‹_› ‹_›, Option.map_some]
    exact congrArg _ (resolve_sound f hu rest _ _ ‹_›)

/-! The four mutating calls are `FSt.mutate` of a function on frames; an accepted one does to the frame what the
    event it is recorded as does (`Ev.apply`), and `lastCell` on `ev :: h` is `Ev.apply ev` on `lastCell` on `h`. -/

/-- the table after an event: clause by clause what `lastCell` does with it -/
def Ev.apply : Ev V → Frame V → Frame V
  | .rows n, f => f.setRows zero n
  | .cells row cs, f => f.setCells conv row cs
  | .column col ty off vals, f => f.setColumn conv col ty off vals.length vals
  | _, f => f

def Ev.fits : Ev V → Frame V → Prop
  | .created _, _ | .reopened _, _ => False
  | .cells row _, f => row < f.nrows
  | .column _ _ off vals, f => off + vals.length ≤ f.nrows
  | _, _ => True

theorem AgreeF.cons {f : Frame V} {h : List (Ev V)} (ha : AgreeF zero conv f h) (ev : Ev V) (hfit : ev.fits f) :
    AgreeF zero conv (ev.apply zero conv f) (ev :: h) := by
  obtain ⟨hu, hs, hr, hcell, hn⟩ := ha
  -- in each case the first step of `lastCell` is written over `f.get` instead of `lastCell … h`
  cases ev with
  | created cs => exact hfit.elim
  | reopened w => exact hfit.elim
  | rows n =>
    refine ⟨hu, hs, rfl, fun r c => ?_, fun r c (h1 : r ≥ n) => if_neg (by omega)⟩
    show (if r < n ∧ r < f.nrows then _ else _) = lastCell zero conv f.cols _ r c
    simp only [lastCell, ← hcell]
    by_cases h2 : r < f.nrows
    · simp only [h2, and_true]; rfl
    · -- `setRows` also looks at the old row count: beyond it the cells hold fill values already
      simp only [h2, and_false, if_false, hn r c (by omega)]; exact (ite_self _).symm
  | cells row cs =>
    refine ⟨hu, hs, hr, fun r c => ?_, fun r c (h1 : r ≥ f.nrows) => ?_⟩
    · show _ = lastCell zero conv f.cols _ r c
      simp only [lastCell, ← hcell]; rfl
    · exact (if_neg (by have : row < f.nrows := hfit; show r ≠ row; omega)).trans (hn r c h1)
  | column col ty off vals =>
    have hfit : off + vals.length ≤ f.nrows := hfit
    refine ⟨hu, hs, hr, fun r c => ?_, fun r c (h1 : r ≥ f.nrows) => (if_neg (by omega)).trans (hn r c h1)⟩
    show (if c = col ∧ off ≤ r ∧ r < off + vals.length then _ else _) = lastCell zero conv f.cols _ r c
    simp only [lastCell, ← hcell]
    split
    · rw [‹c = col ∧ _›.1]; rfl
    · rfl

theorem writableAfter_cons {f : Frame V} {ev : Ev V} (hfit : ev.fits f) (h : List (Ev V)) :
    writableAfter (ev :: h) = writableAfter h := by
  cases ev <;> first | rfl | exact hfit.elim

theorem writeRow_ok (f f' : Frame V) (row : Nat) (vals : List (Variant V)) (h : f.writeRow conv row vals = .ok f') :
    f.writeCells conv row (rowCells vals) = .ok f' := by
  unfold Frame.writeRow at h
  split at h
  · cases h
  · exact h

theorem setColumn_take (f : Frame V) (c : Nat) (ty : DType) (off n : Nat) (vals : List V) (hle : n ≤ vals.length) :
    f.setColumn conv c ty off (vals.take n).length (vals.take n) = f.setColumn conv c ty off n vals := by
  simp only [Frame.setColumn, List.length_take, Nat.min_eq_left hle]
  congr; funext r k
  split
  · rw [List.getElem?_take_of_lt (by omega)]
  · rfl

theorem frameOp_ok (op : Op V) (hc : ∀ cs, op ≠ .create cs) (hw : ∀ w, op ≠ .reopen w) (f f' : Frame V)
    (hu : UniqueNames f.cols) (h : frameOp zero conv op f = .ok f') :
    match evOf f.cols op with
    | some ev => ev.fits f ∧ f' = ev.apply zero conv f
    | none => f' = f := by
  have cells : ∀ row cells, f.writeCells conv row cells = .ok f' →
      row < f.nrows ∧ f' = f.setCells conv row (resolvedCells f.cols cells) := by
    intro row cells h
    obtain ⟨rc, hres, hrow, rfl⟩ := writeCells_ok conv f f' row cells h
    exact ⟨hrow, congrArg _ (resolve_sound f hu _ _ _ hres)⟩
  cases op with
  | create cs => exact absurd rfl (hc cs)
  | reopen w => exact absurd rfl (hw w)
  | setRows n => exact ⟨trivial, (Except.ok.inj h).symm⟩
  | writeCells row cs => exact cells row cs h
  | writeRow row vals => exact cells row _ (writeRow_ok conv f f' row vals h)
  | writeColumn ref ty vals offset count =>
    obtain ⟨name, c, hn, hc, _, hle, hcase⟩ := writeColumn_ok conv f f' ref ty vals offset count h
    simp only [evOf, refName_sound f hu ref name c hn hc]
    rcases hcase with ⟨h0, rfl⟩ | ⟨hpos, hin, rfl⟩
    · simp [h0]
    · simp only [hpos, if_true]
      refine ⟨?_, (setColumn_take conv f c ty offset _ vals hle).symm⟩
      show offset + (vals.take _).length ≤ f.nrows
      rw [List.length_take, Nat.min_eq_left hle]; exact hin

theorem record_of_not_create (s : FSt V) (op : Op V) (h : List (Ev V)) (hc : ∀ cs, op ≠ .create cs) :
    record zero conv s op h = match (step zero conv s op).2, evOf (schemaOf h) op with
      | none, some e => e :: h
      | _, _ => h := by
  cases op <;> first | rfl | exact absurd rfl (hc _)

theorem step_agree (s : FSt V) (h : List (Ev V)) (op : Op V) (ha : Agree zero conv s h) :
    Agree zero conv (step zero conv s op).1 (record zero conv s op h) := by
  by_cases hc : ∃ cs, op = .create cs
  · obtain ⟨cols, rfl⟩ := hc
    simp only [DF.step, record]
    cases hc : Frame.create zero cols with
    | error e => exact ⟨nofun, fun _ => rfl, rfl⟩
    | ok f =>
      obtain ⟨h1, h2, _, h4⟩ := create_schema zero cols f hc
      refine ⟨fun f' hf' => ?_, nofun, rfl⟩
      cases hf'
      exact ⟨h1 ▸ create_unique zero cols f hc, h1.symm, h2.symm, h4, fun r c _ => h4 r c⟩
  by_cases hw : ∃ w, op = .reopen w
  · obtain ⟨w, rfl⟩ := hw
    -- every history rule skips `reopened`: the five fields carry over as they are
    exact ⟨fun f hf => let a := ha.1 f hf; ⟨a.unique, a.schema, a.rows, a.cell, a.normal⟩, ha.2.1, rfl⟩
  have hc : ∀ cs, op ≠ .create cs := fun cs e => hc ⟨cs, e⟩
  have hw : ∀ w, op ≠ .reopen w := fun w e => hw ⟨w, e⟩
  rw [record_of_not_create zero conv s op h hc, step_eq_mutate zero conv s op hc hw]
  obtain ⟨e, he⟩ | ⟨f, f', hf, hg, hwr, he⟩ := mutate_cases s (frameOp zero conv op) <;> rw [he]
  · exact ha
  · have haf := ha.1 f hf
    have hok := frameOp_ok zero conv op hc hw f f' haf.unique hg
    rw [haf.schema]
    cases hev : evOf f.cols op with
    | none => rw [hev] at hok; exact ⟨fun _ hf'' => Option.some.inj hf'' ▸ hok ▸ haf, nofun, ha.2.2⟩
    | some ev =>
      rw [hev] at hok
      obtain ⟨hfit, rfl⟩ := hok
      exact ⟨fun _ hf'' => Option.some.inj hf'' ▸ haf.cons zero conv ev hfit, nofun, (writableAfter_cons hfit h).trans ha.2.2⟩

theorem agree_empty : Agree zero conv ({} : FSt V) ([] : List (Ev V)) := ⟨nofun, fun _ => rfl, rfl⟩

theorem history_agree : ∀ (ops : List (Op V)) (s : FSt V) (h : List (Ev V)), Agree zero conv s h →
    Agree zero conv (runH zero conv s h ops).1 (runH zero conv s h ops).2
  | [], _, _, ha => ha
  | op :: ops, s, h, ha => history_agree ops _ _ (step_agree zero conv s h op ha)

theorem runH_state : ∀ (ops : List (Op V)) (s : FSt V) (h : List (Ev V)), (runH zero conv s h ops).1 = run zero conv s ops
  | [], _, _ => rfl
  | _ :: ops, _, _ => runH_state ops _ _

theorem run_agree (ops : List (Op V)) (f : Frame V) (hf : (run zero conv {} ops).frame = some f) :
    AgreeF zero conv f (runH zero conv {} [] ops).2 :=
  (history_agree zero conv ops {} [] (agree_empty zero conv)).1 f (runH_state zero conv ops {} [] ▸ hf)

/-- **cell_last_writer** — THE PROPERTY, for the model.  After any sequence of calls (creation, row-count changes,
    writeRow, writeCells by name or index, writeColumn with offset / count, reopens, accepted or refused, in any mix),
    the frame that exists has the schema it was created with, the row count last set, and EVERY cell (r, c) holds the
    value of the last accepted write — through any of the three write paths — that covered it since row r was last
    outside the row count, and the fill value of its column type if there is none. -/
theorem cell_last_writer (ops : List (Op V)) (f : Frame V) (hf : (run zero conv {} ops).frame = some f) :
    f.cols = schemaOf (runH zero conv {} [] ops).2 ∧ f.nrows = rowsAfter (runH zero conv {} [] ops).2 ∧
    ∀ r c, f.get r c = lastCell zero conv (schemaOf (runH zero conv {} [] ops).2) (runH zero conv {} [] ops).2 r c := by
  have ha := run_agree zero conv ops f hf
  exact ⟨ha.schema.symm, ha.rows.symm, fun r c => by rw [ha.schema]; exact ha.cell r c⟩

/-- … read through `readRow`: the row the history rule designates -/
theorem history_readRow (ops : List (Op V)) (f : Frame V) (hf : (run zero conv {} ops).frame = some f) (row : Nat)
    (vs : List (Variant V)) (hr : f.readRow row = .ok vs) :
    vs = expectRow zero conv (runH zero conv {} [] ops).2 row := by
  have ha := run_agree zero conv ops f hf
  rw [(readRow_spec f row vs hr).2, expectRow, ha.schema]
  exact List.map_congr_left fun c _ => by rw [ha.cell]; rfl

/-- … read through `readCells` (and `readCell`): for each requested column the value the history rule designates -/
theorem history_readCells (ops : List (Op V)) (f : Frame V) (hf : (run zero conv {} ops).frame = some f) (row : Nat)
    (names : List String) (l : List (String × Variant V)) (hr : f.readCells row names = .ok l) :
    l = names.map fun n =>
      let c := (resolveRef (schemaOf (runH zero conv {} [] ops).2) (.name n)).getD 0
      (n, { ty := typeAt (schemaOf (runH zero conv {} [] ops).2) c,
            val := lastCell zero conv (schemaOf (runH zero conv {} [] ops).2) (runH zero conv {} [] ops).2 row c }) := by
  have ha := run_agree zero conv ops f hf
  rw [(readCells_spec f row names l hr).2.2, ha.schema]
  exact List.map_congr_left fun n _ => by rw [ha.cell]; rfl

/-- … read through `readColumn` (every overload ends in `readColumnRaw`): the first `count` elements are the values
    the history rule designates for rows offset … offset+count−1 of that column, the rest of the buffer is untouched -/
theorem history_readColumn (ops : List (Op V)) (f : Frame V) (hf : (run zero conv {} ops).frame = some f) (name : String)
    (ty : DType) (buf out : List V) (count offset : Nat) (hpos : count > 0)
    (hr : f.readColumnRaw conv name ty buf count offset = .ok out) :
    ∃ c, resolveRef (schemaOf (runH zero conv {} [] ops).2) (.name name) = some c ∧
      out = expectColumn zero conv (runH zero conv {} [] ops).2 c ty offset count ++ buf.drop count := by
  have ha := run_agree zero conv ops f hf
  obtain ⟨c, hc, ⟨h0, _⟩ | ⟨_, _, hout⟩⟩ := readColumnRaw_spec conv f name ty buf out count offset hr
  · omega
  · unfold expectColumn
    rw [hout, ha.schema]
    exact ⟨c, hc, congrArg (· ++ _) (List.map_congr_left fun i _ => by rw [ha.cell]; rfl)⟩

/-- a cell reads as the fill value unless some write of the history covers it -/
theorem uncovered_zero (cols : List Col) : ∀ (h : List (Ev V)) (r c : Nat),
    (∀ ev ∈ h, match ev with
      | .cells row cs => ¬ (r = row ∧ (cs.lookup c).isSome)
      | .column col _ off vals => ¬ (c = col ∧ off ≤ r ∧ r < off + vals.length)
      | _ => True) →
    lastCell zero conv cols h r c = zero (typeAt cols c)
  | [], _, _, _ => rfl
  | ev :: rest, r, c, hw => by
    have ih := uncovered_zero cols rest r c (fun e he => hw e (List.mem_cons_of_mem _ he))
    have h0 := hw ev List.mem_cons_self
    cases ev with
    | created cs => rfl
    | reopened w => exact ih
    | rows n => simp only [lastCell, ih, ite_self]
    | column col ty off vals => exact (if_neg h0).trans ih
    | cells row cs =>
      simp only [lastCell, ih]
      split
      · split
        · exact absurd ⟨‹r = row›, by simp [*]⟩ h0
        · rfl
      · rfl

/-- **unwritten_zero** — a cell no accepted write has covered reads as the fill value of its column type (zero, or the
    empty string): here for every history that contains no write at all -/
theorem unwritten_zero (cols : List Col) : ∀ (h : List (Ev V)),
    (∀ ev ∈ h, match ev with | .cells _ _ => False | .column _ _ _ _ => False | _ => True) →
    ∀ r c, lastCell zero conv cols h r c = zero (typeAt cols c) :=
  fun h hw r c => uncovered_zero zero conv cols h r c fun ev he => by
    have := hw ev he
    cases ev <;> first | trivial | exact this.elim

theorem schemaOf_record (s : FSt V) (op : Op V) (h : List (Ev V)) (hc : ∀ cs, op ≠ .create cs) :
    schemaOf (record zero conv s op h) = schemaOf h := by
  rw [record_of_not_create zero conv s op h hc]
  split
  · rename_i ev _ hev
    cases op <;> first | exact absurd rfl (hc _) | (cases hev; rfl) | skip
    simp only [evOf] at hev
    split at hev
    · split at hev <;> cases hev; rfl
    · cases hev
  · rfl

theorem schemaOf_runH : ∀ (ops : List (Op V)) (s : FSt V) (h : List (Ev V)), (∀ op ∈ ops, ∀ cs, op ≠ .create cs) →
    schemaOf (runH zero conv s h ops).2 = schemaOf h
  | [], _, _, _ => rfl
  | op :: ops, s, h, hc =>
    (schemaOf_runH ops _ _ fun o ho => hc o (List.mem_cons_of_mem _ ho)).trans
      (schemaOf_record zero conv s op h (hc op List.mem_cons_self))

/-- **schema_roundtrip** — whatever is done to the frame after its creation, `columns()` is the list given at the creation
    (names, units, types, order), and column name ↔ index agree with it -/
theorem schema_roundtrip (cols : List Col) (ops : List (Op V)) (hc : ∀ op ∈ ops, ∀ cs, op ≠ .create cs)
    (f0 : Frame V) (h0 : Frame.create zero cols = .ok f0) :
    ∃ f, (run zero conv {} (.create cols :: ops)).frame = some f ∧ f.cols = cols ∧
      (∀ i col, cols[i]? = some col → f.colName i = .ok col.name ∧ f.colIndex col.name = some i) := by
  -- the frame agrees with the history, whose schema is that of its only creation; no frame would mean no columns
  have ha := history_agree zero conv (.create cols :: ops) {} [] (agree_empty zero conv)
  rw [runH_state] at ha
  have hs : schemaOf (runH zero conv {} [] (.create cols :: ops)).2 = cols := by
    show schemaOf (runH zero conv _ (record zero conv {} (.create cols) []) ops).2 = cols
    rw [schemaOf_runH zero conv ops _ _ hc]; simp [record, DF.step, h0, schemaOf]
  cases hf : (run zero conv {} (.create cols :: ops)).frame with
  | none => exact absurd ((ha.2.1 hf).symm.trans hs) (create_schema zero cols f0 h0).2.2.1.symm
  | some f =>
    have haf := ha.1 f hf
    have hfc : f.cols = cols := haf.schema.symm.trans hs
    refine ⟨f, rfl, hfc, fun i col hi => ?_⟩
    have hn : f.colName i = .ok col.name := by unfold Frame.colName; rw [hfc, hi]
    exact ⟨hn, (colIndex_colName f haf.unique i col.name hn).2⟩

/-! ### non-vacuity: a concrete history (cells are natural-number tokens) -/

def z : DType → Nat := fun _ => 0
def cv : DType → DType → Nat → Nat := fun _ _ v => v + 1000       -- a visible "conversion"
def demoCols : List Col := [⟨"i", "mV", .int32⟩, ⟨"d", "", .double⟩, ⟨"s", "u s", .string⟩]

/-- create, grow, row / cell / column writes through names and indices, an int64 written into the int32 column
    (converted), refused calls (row past the end, unknown column, column twice, string into a number), shrink and
    grow again, a read-only session -/
def demoOps : List (Op Nat) :=
  [.create demoCols, .writeRow 0 [⟨.int32, 1⟩], .setRows 4,
   .writeRow 0 [⟨.int32, 1⟩, ⟨.double, 2⟩, ⟨.string, 3⟩], .writeCells 1 [(.name "s", ⟨.string, 5⟩), (.idx 0, ⟨.int64, 7⟩)],
   .writeColumn (.name "d") .double [10, 11, 12, 13] 1 3, .writeCells 9 [(.idx 0, ⟨.int32, 1⟩)],
   .writeCells 2 [(.name "nope", ⟨.int32, 1⟩)], .writeCells 2 [(.name "d", ⟨.double, 1⟩), (.idx 1, ⟨.double, 2⟩)],
   .writeCells 2 [(.idx 0, ⟨.string, 1⟩)], .setRows 2, .setRows 3, .reopen false, .writeRow 0 [⟨.int32, 99⟩], .reopen true,
   .writeColumn (.idx 2) .string [21, 22] 1 0]

example : ((run z cv {} demoOps).frame.map fun f =>
      (f.nrows, (List.range 4).map fun r => (List.range 3).map fun c => f.get r c)) =
    some (3, [[1, 2, 3], [1007, 10, 21], [0, 0, 22], [0, 0, 0]]) := by decide +kernel
def demoErrs : List (Option Err) :=
  (demoOps.foldl (fun (acc : FSt Nat × List (Option Err)) op => ((step z cv acc.1 op).1, acc.2 ++ [(step z cv acc.1 op).2])) ({}, [])).2
example : demoErrs = [none, some .h5Error, none, none, none, none, some .h5Error, some .h5Error, some .h5Error, some .h5Error,
    none, none, none, some .h5Error, none, none] := by decide +kernel
example : ((run z cv {} demoOps).frame.bind fun f => (f.readRow 1).toOption) =
    some [⟨.int32, 1007⟩, ⟨.double, 10⟩, ⟨.string, 21⟩] := by decide +kernel
example : ((run z cv {} demoOps).frame.bind fun f => (f.readCells 1 ["s", "i"]).toOption) =
    some [("s", ⟨.string, 21⟩), ("i", ⟨.int32, 1007⟩)] := by decide +kernel
example : ((run z cv {} demoOps).frame.bind fun f => (f.readColumnRaw cv "d" .double [7, 7, 7] 2 0).toOption) =
    some [2, 10, 7] := by decide +kernel
example : ((run z cv {} demoOps).frame.bind fun f => (f.readRow 3).toOption) = none := by decide +kernel
example : (List.range 3).map (fun c => lastCell z cv demoCols (runH z cv {} [] demoOps).2 1 c) = [1007, 10, 21] := by decide +kernel
example : (expectRow z cv (runH z cv {} [] demoOps).2 2, rowsAfter (runH z cv {} [] demoOps).2) =
    ([⟨.int32, 0⟩, ⟨.double, 0⟩, ⟨.string, 22⟩], 3) := by decide +kernel

end Nix.C15
