import NixModel.NDArray
/-
  C16 — the typed transfers (one value, a vector the library sizes): the buffer the library has in hand always holds the number of
  elements it then asks the raw transfer for.  This is the memory-safety content of the fix fce2435 (D50), for every rank, count and
  offset: a single value is asked for exactly ONE element; a vector is at least as long as the element count of its count.
-/
namespace Nix.C16Typed
open Nix

theorem prod_replicate_one : ∀ n : Nat, prod (List.replicate n 1) = 1
  | 0 => rfl
  | n + 1 => by simp [List.replicate, prod, prod_replicate_one n]

/-- **a single value is one element** — whatever count and offset the caller gives (empty, of another rank, …), the raw transfer
    behind `getData(value, count, offset)`, `getData(value, offset)` and `setData(value, offset)` moves exactly one element or is
    refused: the cell of one element is never overrun -/
theorem single_value_transfers_one_element (how : String) (rank : Nat) (cnt off c : Idx) (hv : how ≠ "vec")
    (h : typedCount how rank cnt off = .ok c) : prod c = 1 := by
  unfold typedCount at h
  split at h
  · split at h
    · cases h
    · rename_i hc
      cases h
      split
      · exact prod_replicate_one rank
      · rename_i he; simpa [he] using hc
  · split at h
    · rename_i hvec; exact absurd (by simpa using hvec) hv
    · cases h
      split <;> exact prod_replicate_one _

theorem lastBig_eq : ∀ l : List Nat, lastBig l = (l.filter (· > 1)).getLast?
  | [] => rfl
  | x :: xs => by
    rw [lastBig, lastBig_eq xs, List.filter_cons]
    by_cases hx : x > 1
    · simp only [hx, decide_true, if_true, List.getLast?_cons]
      cases (xs.filter (· > 1)).getLast? <;> rfl
    · simp only [hx, decide_false, Bool.false_eq_true, if_false]
      cases (xs.filter (· > 1)).getLast? <;> rfl

theorem prod_le_filter : ∀ l : List Nat, prod l ≤ prod (l.filter (· > 1))
  | [] => Nat.le_refl _
  | x :: xs => by
    have ih := prod_le_filter xs
    rw [List.filter_cons]
    by_cases hx : x > 1
    · simp only [hx, decide_true, if_true, prod]; exact Nat.mul_le_mul_left x ih
    · simp only [hx, decide_false, Bool.false_eq_true, if_false, prod]
      exact Nat.le_trans (Nat.mul_le_mul_right _ (show x ≤ 1 by omega)) (by rwa [Nat.one_mul])

/-- **the vector holds the transfer** — the vector `data_traits<std::vector<T>>::resize` leaves behind is at least as long as the
    number of elements the raw transfer is then asked for (zero entries included) -/
theorem vector_holds_the_transfer (rank : Nat) (cnt off c : Idx) (h : typedCount "vec" rank cnt off = .ok c) :
    prod c ≤ vecSize c := by
  unfold typedCount at h
  have h3 : (("vec" : String) == "rd3") = false := by decide
  have hv : (("vec" : String) == "vec") = true := by decide
  simp only [h3, hv, Bool.false_eq_true, if_false, if_true] at h
  split at h
  · cases h
  split at h
  · cases h
  rename_i he hm
  cases h
  unfold vecSize
  rw [lastBig_eq]
  -- at most one entry is above 1: the product is at most that entry, or at most 1 and then the first entry bounds it
  cases cnt with
  | nil => exact absurd rfl he
  | cons x xs =>
  have hp := prod_le_filter (x :: xs)
  cases hf : (x :: xs).filter (· > 1) with
  | nil =>
    have hxs : xs.filter (· > 1) = [] := by
      rw [List.filter_cons] at hf
      split at hf
      · cases hf
      · exact hf
    have := prod_le_filter xs
    rw [hxs] at this
    simp only [List.getLast?_nil, Option.getD_none, List.headD_cons, prod]
    exact Nat.le_trans (Nat.mul_le_mul_left x this) (by simp [prod])
  | cons b bs =>
    rw [hf] at hp hm
    cases bs with
    | nil => simpa [prod] using hp
    | cons _ _ => exact absurd (by simp) hm

example : typedCount "rd3" 2 [] [] = .ok [1, 1] := by decide
example : typedCount "rd2" 3 [] [4, 0] = .ok [1, 1] := by decide
example : typedCount "vec" 2 [1, 5] [0, 0] = .ok [1, 5] ∧ vecSize [1, 5] = 5 := by decide
example : typedCount "vec" 2 [2, 5] [0, 0] = .error .invalidRank := by decide
example : vecSize [1, 0] = 1 ∧ prod [1, 0] = 0 := by decide

end Nix.C16Typed
