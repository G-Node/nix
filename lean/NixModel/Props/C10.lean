import NixModel.Version
import NixModel.Spec.C10
/-
  C10 — format-version gate and order.  The gate is proved for every library version (`gate_read_iff`, `gate_write_iff`) and
  instantiated with `libVersion`, which gen/extract_tables.py reads from backend/hdf5/FileHDF5.hpp on every run.
-/
namespace Nix.C10
open Nix FormatVersion

/-- one round of the loop in `operator<` -/
theorem step_iff (p q : Int) (k : Bool) :
    (if p < q then true else if q < p then false else k) = true ↔ p < q ∨ (p = q ∧ k = true) := by
  by_cases h₁ : p < q
  · simp [h₁]
  · by_cases h₂ : q < p
    · simp [h₁, h₂, Int.ne_of_gt h₂]
    · simp [Int.le_antisymm (Int.not_lt.mp h₂) (Int.not_lt.mp h₁)]

theorem lt_iff_specLt (a b : FormatVersion) : lt a b = true ↔ specLt a b := by
  unfold lt specLt FormatVersion.get
  dsimp only
  rw [step_iff, step_iff, step_iff]
  simp

theorem eq_iff (a b : FormatVersion) : eq a b = true ↔ a = b := by
  cases a; cases b; simp [eq]; omega

theorem gate_read_iff (lib v : FormatVersion) :
    openExisting lib (headerWithVersion v) .readOnly false = .accepted ↔ (v.x = lib.x ∧ v.y ≤ lib.y) := by
  simp only [openExisting, checkHeader, headerWithVersion, FormatVersion.ofList?, canRead]
  by_cases hx : lib.x = v.x <;> by_cases hy : v.y ≤ lib.y <;> simp [hx, hy] <;> omega

theorem gate_write_iff (lib v : FormatVersion) :
    openExisting lib (headerWithVersion v) .readWrite false = .accepted ↔ v = lib := by
  simp only [openExisting, checkHeader, headerWithVersion, FormatVersion.ofList?, canWrite]
  cases h : eq lib v <;> simp [← eq_iff, eq_comm (a := v), h]

theorem gate_read_iff_lib (v : FormatVersion) :
    openExisting libVersion (headerWithVersion v) .readOnly false = .accepted ↔ (v.x = libVersion.x ∧ v.y ≤ libVersion.y) :=
  gate_read_iff _ _
theorem gate_write_iff_lib (v : FormatVersion) :
    openExisting libVersion (headerWithVersion v) .readWrite false = .accepted ↔ v = libVersion :=
  gate_write_iff _ _

/-- Force bypasses the version check (a three-component version never makes the constructor throw) -/
theorem force_bypasses (lib v : FormatVersion) (m : FileMode) :
    openExisting lib (headerWithVersion v) m true = .accepted := by
  cases m <;> simp [openExisting, checkHeader, headerWithVersion, FormatVersion.ofList?]

/-- Overwrite never consults the header -/
theorem overwrite_accepts (lib : FormatVersion) (h : Header) (f : Bool) :
    openExisting lib h .overwrite f = .accepted := rfl

/-! ### ordering laws

`lt_iff_specLt` embeds `operator<` into the lexicographic order on integer triples, and `ext_iff` does the same for equality; every
law below is that translation followed by linear arithmetic. -/

theorem ext_iff (a b : FormatVersion) : a = b ↔ a.x = b.x ∧ a.y = b.y ∧ a.z = b.z := by
  cases a; cases b; simp

theorem lt_eq_false_iff (a b : FormatVersion) : lt a b = false ↔ ¬ specLt a b := by
  rw [← lt_iff_specLt, Bool.not_eq_true]

theorem lt_irrefl (a : FormatVersion) : lt a a = false := by
  simp only [lt_eq_false_iff, specLt]; omega
theorem lt_trans (a b c : FormatVersion) (h₁ : lt a b = true) (h₂ : lt b c = true) : lt a c = true := by
  simp only [lt_iff_specLt, specLt] at *; omega
theorem lt_asymm (a b : FormatVersion) (h : lt a b = true) : lt b a = false := by
  simp only [lt_iff_specLt, lt_eq_false_iff, specLt] at *; omega
theorem lt_trichotomous (a b : FormatVersion) : lt a b = true ∨ a = b ∨ lt b a = true := by
  simp only [lt_iff_specLt, ext_iff, specLt]; omega

/-- exactly one of `<`, `=`, `>` holds: "consistent with equality" -/
theorem eq_iff_not_lt_not_gt (a b : FormatVersion) :
    eq a b = true ↔ (lt a b = false ∧ gt a b = false) := by
  simp only [gt, eq_iff, lt_eq_false_iff, ext_iff, specLt]; omega
theorem le_iff_lt_or_eq (a b : FormatVersion) : le a b = true ↔ (lt a b = true ∨ a = b) := by
  simp only [le, gt, Bool.not_eq_true', lt_iff_specLt, lt_eq_false_iff, ext_iff, specLt]; omega
theorem ge_iff_gt_or_eq (a b : FormatVersion) : ge a b = true ↔ (gt a b = true ∨ a = b) := by
  rw [eq_comm (a := a)]; exact le_iff_lt_or_eq b a
theorem ne_iff (a b : FormatVersion) : ne a b = true ↔ a ≠ b := by
  rw [ne, Bool.not_eq_true', ← Bool.not_eq_true, eq_iff]
theorem le_total (a b : FormatVersion) : le a b = true ∨ le b a = true := by
  simp only [le, gt, Bool.not_eq_true', lt_eq_false_iff, specLt]; omega

example : openExisting ⟨1,2,0⟩ (headerWithVersion ⟨1,1,7⟩) .readOnly false = .accepted := by decide +kernel
example : openExisting ⟨1,2,0⟩ (headerWithVersion ⟨1,3,0⟩) .readOnly false = .invalidFile := by decide +kernel
example : openExisting ⟨1,2,0⟩ (headerWithVersion ⟨1,2,1⟩) .readWrite false = .invalidFile := by decide +kernel
example : lt ⟨1,2,3⟩ ⟨1,3,0⟩ = true ∧ lt ⟨1,3,0⟩ ⟨1,2,3⟩ = false := by decide +kernel

end Nix.C10
