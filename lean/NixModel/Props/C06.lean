import NixModel.Props.C05
/-
  C06 — MultiTag retrieval returns exactly region i for position index i.
-/
open Std
namespace Nix.C06
open Nix Scalar Nix.C07 Nix.C05

section
variable {α : Type} [Scalar α]

/-- structure of a successful `getOffsetAndCount(MultiTag …)`: the j-th result is the assembly row of the
    j-th requested index, which is a function of that index alone -/
theorem mtagOffsetCount_rows (t : MTagIn α) (idx : List Nat) (hne : idx ≠ []) (rs : List (List Nat × List Nat))
    (h : mtagOffsetCount t idx = .ok rs) :
    ∃ maxExt, t.prepare (idx.foldl max 0) = .ok maxExt ∧ rs.length = idx.length ∧
      ∀ j (hj : j < idx.length) (hr : j < rs.length), t.row maxExt idx[j] = .ok rs[j] := by
  unfold mtagOffsetCount at h
  have hemp : idx.isEmpty = false := List.isEmpty_eq_false_iff.2 hne
  simp only [hemp, Bool.false_eq_true, if_false] at h
  split at h
  · cases h
  rename_i maxExt hp
  obtain ⟨hl, hall⟩ := mapExcept_ok _ _ _ h
  exact ⟨maxExt, hp, hl, hall⟩

theorem prepare_ok (t : MTagIn α) (m : Nat) (a : List (α × α)) (h : t.prepare m = .ok a) :
    t.maxExt0 = .ok a ∧ t.indexBad m = false ∧ t.rankBad = false ∧ ∃ u, t.unitCheck = .ok u := by
  unfold MTagIn.prepare at h
  split at h
  · cases h
  rename_i me hme
  split at h
  · cases h
  rename_i hb
  split at h
  · cases h
  rename_i hr
  split at h
  · cases h
  rename_i u hu
  cases h
  exact ⟨hme, by simpa using hb, by simpa using hr, u, hu⟩

theorem prepare_indep (t : MTagIn α) (m m' : Nat) (a b : List (α × α))
    (h : t.prepare m = .ok a) (h' : t.prepare m' = .ok b) : a = b := by
  have h1 := (prepare_ok t m a h).1
  have h2 := (prepare_ok t m' b h').1
  rw [h1] at h2; exact Except.ok.inj h2

end

variable {α : Type} [Scalar α] [IsLinearOrder α] [LawfulOrderLT α] [LawfulScalarEq α] [LawfulRounding α]

/-- **mtag_region_spec** — per requested index and per dimension the positions row specifies: the same rule
    as for a Tag with position = row entry and extent = extents row entry -/
theorem mtag_region_spec (t : MTagIn α) (maxExt : List (α × α)) (idx : Nat) (off cnt : List Nat)
    (h : t.row maxExt idx = .ok (off, cnt))
    (i : Nat) (hi : i < min (t.posRow idx).length t.dims.length) (d : DimDesc α) (hd : t.dims[i]? = some d) (hwf : DimWF d)
    (u : String) (hu : t.unitsPadded[i]? = some u)
    (p e : α) (hp : (t.posRow idx)[i]? = some p) (he : (t.extRow idx)[i]? = some e)
    (k : Option α) (hk : d.scale u = .ok k)
    (hs : InScope d (applyScale k p)) (hes : InScope d (applyScale k (add p e)))
    (hps : ∀ k', d.scaleScalar u = .ok k' → InScope d (applyScale k' p)) :
    ∃ (ho : i < off.length) (hc : i < cnt.length),
      (∀ x, (off[i] ≤ x ∧ x < off[i] + cnt[i]) ↔ inRegion (axisOf d) t.rm (applyScale k p) (applyScale k (add p e)) x) ∨
      (add p e = p ∧ cnt[i] = 1 ∧ (∀ x, ¬ inRegion (axisOf d) t.rm (applyScale k p) (applyScale k (add p e)) x) ∧
        ∃ k', d.scaleScalar u = .ok k' ∧ isFirstAtOrAfter (axisOf d) (applyScale k' p) off[i]) := by
  unfold MTagIn.row at h
  split at h
  · cases h
  rename_i cells hcells
  cases h
  obtain ⟨hlo, hlc, hall⟩ := cells_ok _ _ _ hcells
  refine ⟨by omega, by omega, ?_⟩
  have hcell := hall i (by omega) (by omega)
  unfold MTagIn.cell at hcell
  rw [hd, hu] at hcell
  simp only [hi, if_true, hp, he] at hcell
  have hspec := mtagDim_spec d hwf p (add p e) u t.rm k hk hs hes hps
  rw [hcell] at hspec
  exact hspec

/-! The statements below are about the assembly of the regions alone; they carry the law instances without using them. -/
section
set_option linter.unusedSectionVars false

/-- **mtag_list_eq_map_single** — retrieval for a list of indices equals the list of the single retrievals:
    whenever the list retrieval and the single retrieval of its j-th index both succeed, the j-th region of the
    list is the region of the single retrieval -/
theorem mtag_list_eq_map_single (t : MTagIn α) (idx : List Nat) (rs : List (List Nat × List Nat))
    (h : mtagOffsetCount t idx = .ok rs) (j : Nat) (hj : j < idx.length) (r : List Nat × List Nat)
    (h1 : mtagOffsetCount t [idx[j]] = .ok [r]) : ∃ hr : j < rs.length, rs[j] = r := by
  have hne : idx ≠ [] := by intro he; subst he; simp at hj
  obtain ⟨me, hp, hl, hall⟩ := mtagOffsetCount_rows t idx hne rs h
  obtain ⟨me1, hp1, _, hall1⟩ := mtagOffsetCount_rows t [idx[j]] (by simp) [r] h1
  have hr : j < rs.length := by omega
  refine ⟨hr, ?_⟩
  have hme := prepare_indep t _ _ me me1 hp hp1
  subst hme
  have a := hall j hj hr
  have b := hall1 0 (by simp) (by simp)
  simp only [List.getElem_cons_zero] at b
  rw [a] at b
  exact Except.ok.inj b

/-- … and a list retrieval that succeeds makes each single retrieval succeed with the same region -/
theorem mtag_single_of_list (t : MTagIn α) (idx : List Nat) (rs : List (List Nat × List Nat))
    (h : mtagOffsetCount t idx = .ok rs) (j : Nat) (hj : j < idx.length) (hr : j < rs.length)
    (hbound : idx[j] < t.positions.length ∧ (match t.extents with | some ex => idx[j] < ex.length | none => True)) :
    mtagOffsetCount t [idx[j]] = .ok [rs[j]] := by
  have hne : idx ≠ [] := by intro he; subst he; simp at hj
  obtain ⟨me, hp, hl, hall⟩ := mtagOffsetCount_rows t idx hne rs h
  obtain ⟨h1, _, h3, u, h4⟩ := prepare_ok t _ me hp
  have hib : t.indexBad idx[j] = false := by
    unfold MTagIn.indexBad
    obtain ⟨hb1, hb2⟩ := hbound
    cases hx : t.extents with
    | none => simp; omega
    | some ex => simp only [hx] at hb2 ⊢; simp; omega
  unfold mtagOffsetCount MTagIn.prepare
  simp [h1, hib, h3, h4, mapExcept, hall j hj hr]

/-- **mtag_all_of_none** — "all positions" of a multi-tag that has no positions is no region at all, for references and for
    features of every link type: no index is ever looked at (the C++ took `*max_element` of the empty list here, DD28 / D42) -/
theorem mtag_all_of_none (t : MTagIn α) (hp : t.positions = []) (me : List (α × α)) (hme : t.maxExt0 = .ok me) :
    mtagRegions t [] = .ok [] := by
  simp [mtagRegions, mtagOffsetCount, hp, hme, mapExcept]

theorem mtag_feature_all_of_none (t : MTagIn α) (hp : t.positions = []) (lt : LinkType) (fdims : List (DimDesc α)) (fshape : List Nat)
    (me : List (α × α)) (hme : ({ t with dims := fdims, shape := fshape } : MTagIn α).maxExt0 = .ok me) :
    mtagFeatureRegions t [] lt fdims fshape = .ok [] := by
  cases lt with
  | tagged =>
    simp only [mtagFeatureRegions, hp, List.length_nil, List.range_zero, List.isEmpty_nil, if_true]
    refine mtag_all_of_none _ rfl me ?_
    simpa [hp] using hme
  | untagged | indexed => simp [mtagFeatureRegions, hp]

/-- **mtag_index_oob** — an index beyond the number of positions raises OutOfBounds (once the descriptors
    themselves can be read) -/
theorem mtag_index_oob (t : MTagIn α) (i : Nat) (hi : i ≥ t.positions.length) (me : List (α × α))
    (hme : t.maxExt0 = .ok me) : mtagOffsetCount t [i] = .error .outOfBounds := by
  unfold mtagOffsetCount MTagIn.prepare
  have hfold : [i].foldl max 0 = i := by simp
  have hb : t.indexBad i = true := by unfold MTagIn.indexBad; simp [hi]
  rw [hfold, hme]
  simp [hb]

/-- **mtag_feature_tagged**, **_untagged**, **_indexed_single** — tagged features are cut like references, untagged features return
    the whole array, indexed features slice i along the first dimension -/
theorem mtag_feature_tagged (t : MTagIn α) (idx : List Nat) (fdims : List (DimDesc α)) (fshape : List Nat) :
    mtagFeatureRegions t idx .tagged fdims fshape =
      mtagRegions { t with dims := fdims, shape := fshape } (if idx.isEmpty then List.range t.positions.length else idx) := rfl

theorem mtag_feature_untagged (t : MTagIn α) (idx : List Nat) (hne : idx ≠ []) (fdims : List (DimDesc α)) (fshape : List Nat)
    (hb : idx.foldl max 0 < t.positions.length) :
    mtagFeatureRegions t idx .untagged fdims fshape = .ok (idx.map fun _ => wholeRegion fshape) := by
  unfold mtagFeatureRegions
  have : idx.isEmpty = false := List.isEmpty_eq_false_iff.2 hne
  simp only [this, Bool.false_eq_true, if_false]
  have hb' : ¬ (idx.foldl max 0 ≥ t.positions.length) := by omega
  simp [hb']

/-- one indexed-feature request: offset (i, 0, …, 0), count (1, rest of the feature's extent) -/
theorem mtag_feature_indexed_single (t : MTagIn α) (i : Nat) (fdims : List (DimDesc α)) (fshape : List Nat)
    (hb : i < t.positions.length) (r : List (List Nat × List Nat))
    (h : mtagFeatureRegions t [i] .indexed fdims fshape = .ok r) :
    r = [((List.range fshape.length).map fun k => if k == 0 then i else 0,
          (List.range fshape.length).map fun k => if k == 0 then 1 else (fshape[k]?).getD 0)] := by
  unfold mtagFeatureRegions at h
  have hfold : [i].foldl max 0 = i := by simp
  simp only [List.isEmpty_cons, Bool.false_eq_true, if_false, hfold] at h
  have hb' : ¬ (i ≥ t.positions.length) := by omega
  simp only [hb', if_false, mapExcept] at h
  split at h
  · cases h
  · rename_i y heq
    cases h
    split at heq
    · cases heq
    · split at heq
      · cases heq
      · cases heq; rfl

end

/-! ### non-vacuity: a 2-d array tagged by a 3 × 2 positions matrix (integer axes) -/
def demo : MTagIn Int :=
  { positions := [[1, 0], [2, 1], [0, 2]], posRank := 2, extents := some [[1, 1], [0, 0], [2, 0]], units := [],
    dims := [.set 0, .set 0], shape := [4, 3], rm := .exclusive }
example : mtagRegions demo [0, 1, 2] = .ok [([1, 0], [1, 1]), ([2, 1], [1, 1]), ([0, 2], [2, 1])] := by decide
example : mtagRegions demo [1] = .ok [([2, 1], [1, 1])] := by decide
example : mtagRegions demo [3] = .error .outOfBounds := by decide
example : mtagFeatureRegions demo [2] .indexed [.set 0, .set 0] [3, 2] = .ok [([2, 0], [1, 2])] := by decide

end Nix.C06
