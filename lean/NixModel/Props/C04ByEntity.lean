import NixModel.Gen.ByEntity
/-
  C03 / C04 / C08 — operations BY ENTITY are about that entity.  The store model's by-handle operations (delete, unlink, link, the
  single-valued links) go by the id of the entity behind the handle.  The C++ front end does the same exactly when every by-entity
  overload forwards `x.id()` to its backend; `gen/extract_byentity.py` reads off which accessor each one forwards, on every run.
  (D52 and D53 were three overloads forwarding `x.name()`: a namesake of another parent was deleted / unlinked / linked instead.)
-/
namespace Nix.ByEntity
open Nix.Gen.ByEntity

-- a row of `overloads`: (file, function, type of the entity, backend function called, accessor forwarded)

/-- every by-entity overload forwards the id of the entity — except the two has-queries that look the NAME up and then compare the
    id of what they found with the id of the entity handed in (`da && da.id() == reference.id()`) -/
theorem by_entity_overloads_forward_the_id :
    ∀ o ∈ overloads, o.2.2.2.2 = "id" ∨ (o.2.1 = "hasReference" ∧ o.2.2.2.1 = "getReference") := by decide +kernel

/-- the overloads the model's by-handle operations stand for -/
def modelled : List (String × String × String × String × String) :=
  [("src/Block.cpp", "deleteSource", "Source", "deleteSource", "id"),
   ("src/Source.cpp", "deleteSource", "Source", "deleteSource", "id"),
   ("src/Section.cpp", "deleteSection", "Section", "deleteSection", "id"),
   ("src/File.cpp", "deleteBlock", "Block", "deleteBlock", "id"),
   ("src/Section.cpp", "deleteProperty", "Property", "deleteProperty", "id"),
   ("src/Tag.cpp", "deleteFeature", "Feature", "deleteFeature", "id"),
   ("src/MultiTag.cpp", "deleteFeature", "Feature", "deleteFeature", "id"),
   ("src/Tag.cpp", "addReference", "DataArray", "addReference", "id"),
   ("src/MultiTag.cpp", "addReference", "DataArray", "addReference", "id"),
   ("src/Tag.cpp", "removeReference", "DataArray", "removeReference", "id"),
   ("src/MultiTag.cpp", "removeReference", "DataArray", "removeReference", "id"),
   ("include/nix/base/EntityWithSources.hpp", "addSource", "Source", "addSource", "id"),
   ("include/nix/base/EntityWithSources.hpp", "removeSource", "Source", "removeSource", "id"),
   ("include/nix/base/EntityWithMetadata.hpp", "metadata", "Section", "metadata", "id"),
   ("src/Section.cpp", "link", "Section", "link", "id"),
   ("src/MultiTag.cpp", "positions", "DataArray", "positions", "id"),
   ("src/MultiTag.cpp", "extents", "DataArray", "extents", "id"),
   ("src/Feature.cpp", "data", "DataArray", "data", "id")]

/-- a renamed or restructured one would otherwise drop out of the statement above unnoticed -/
theorem modelled_overloads_are_tabulated : ∀ m ∈ modelled, m ∈ overloads := by decide +kernel

end Nix.ByEntity
