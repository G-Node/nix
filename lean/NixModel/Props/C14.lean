import NixModel.Spec.C14
import NixModel.Proofs.PropsLemmas
/-
  C14 — metadata property values.  Property theorems about the model of lean/NixModel/Property.lean, for every
  value token type `V`, every double token type `D`, every fill function `zero` and every history.
-/
namespace Nix.C14
open Nix Nix.PV

variable {V D : Type} (zero : DType → V)

theorem setExtent_length (p : PropSt V D) (n : Nat) : (p.setExtent zero n).cells.length = n := by
  simp only [PropSt.setExtent, List.length_append, List.length_take, List.length_replicate]
  rw [Nat.add_comm, Nat.sub_add_min_cancel]

theorem mapM_getAs_uniform (dt : DType) : ∀ (vs : List (Variant V)), (∀ v ∈ vs, v.ty = dt) →
    vs.mapM (Variant.getAs dt) = .ok (vs.map (·.val))
  | [], _ => rfl
  | v :: vs, h => by
    have hv : v.ty = dt := h v (by simp)
    have ih := mapM_getAs_uniform dt vs (fun w hw => h w (by simp [hw]))
    simp [List.mapM_cons, Variant.getAs, hv, ih, bind, Except.bind, pure, Except.pure]

theorem deleteValues_eq (p : PropSt V D) : p.deleteValues zero = { p with cells := [] } := by
  simp [PropSt.deleteValues, PropSt.setExtent]

theorem any_ne_iff (dt : DType) (vs : List (Variant V)) :
    vs.any (fun v => decide (v.ty ≠ dt)) = true ↔ ¬ ∀ v ∈ vs, v.ty = dt := by
  simp [List.any_eq_true]

/-- `PropertyHDF5::values(vector)` in one equation: the types decide; then the payloads are stored, except that a type
    without Variant alternative only gets the extent -/
theorem assign_eq (p : PropSt V D) (vs : List (Variant V)) :
    p.assign zero vs =
      if ∀ v ∈ vs, v.ty = p.dtype then
        (if vs ≠ [] ∧ p.dtype.isValueType = false then p.setExtent zero vs.length else { p with cells := vs.map (·.val) }, none)
      else (p, some .stdInvalidArgument) := by
  cases vs with
  | nil => rw [if_pos nofun, if_neg (fun h => h.1 rfl)]; exact congrArg (·, none) (deleteValues_eq zero p)
  | cons v0 rest =>
    show (if v0.ty ≠ p.dtype then _ else if (v0 :: rest).any (fun v => v.ty ≠ v0.ty) then _ else
      if v0.ty.isValueType then _ else _) = _
    by_cases h0 : v0.ty = p.dtype
    · rw [if_neg (fun hn => hn h0), h0]
      by_cases h : ∀ v ∈ v0 :: rest, v.ty = p.dtype
      · rw [if_neg (mt (any_ne_iff _ _).1 (fun hn => hn h)), if_pos h]
        cases hv : p.dtype.isValueType
        · rw [if_neg nofun, if_pos ⟨nofun, rfl⟩]
        · rw [if_pos rfl, if_neg (fun hn => nomatch hn.2)]
          simp only [PropSt.writeAll, mapM_getAs_uniform p.dtype _ h]; rfl
      · rw [if_pos ((any_ne_iff _ _).2 h), if_neg h]
    · rw [if_pos h0, if_neg fun h => h0 (h v0 List.mem_cons_self)]

/-- **mixed_type_rejected** (and no trace): a vector containing a value whose type is not the property's type is
    refused with `std::invalid_argument` and the property is exactly as before — whatever the position of the
    offending value -/
theorem mixed_type_rejected (p : PropSt V D) (vs : List (Variant V)) (h : ∃ v ∈ vs, v.ty ≠ p.dtype) :
    p.assign zero vs = (p, some .stdInvalidArgument) := by
  obtain ⟨v, hv, hne⟩ := h
  rw [assign_eq, if_neg fun hall => hne (hall v hv)]

theorem assign_accepted_iff (p : PropSt V D) (vs : List (Variant V)) :
    (p.assign zero vs).2 = none ↔ ∀ v ∈ vs, v.ty = p.dtype := by
  rw [assign_eq]
  split
  · exact ⟨fun _ => ‹_›, fun _ => rfl⟩
  · exact ⟨nofun, fun h => absurd h ‹_›⟩

/-- D11: the type check precedes the resize, and after it the per-element `get<T>` cannot fail, so an assignment that
    raises has changed nothing -/
theorem rejected_assign_leaves_no_trace (p : PropSt V D) (vs : List (Variant V)) (e : Err)
    (h : (p.assign zero vs).2 = some e) : (p.assign zero vs).1 = p := by
  rw [assign_eq] at h ⊢
  split at h
  · cases h
  · rw [if_neg ‹_›]

theorem assign_keeps_attributes (p : PropSt V D) (vs : List (Variant V)) :
    (p.assign zero vs).1.dtype = p.dtype ∧ (p.assign zero vs).1.unit = p.unit ∧
    (p.assign zero vs).1.unc = p.unc ∧ (p.assign zero vs).1.defn = p.defn := by
  rw [assign_eq]
  split
  · split <;> exact ⟨rfl, rfl, rfl, rfl⟩
  · exact ⟨rfl, rfl, rfl, rfl⟩

theorem valueType_of_variant_file (t : DType) (h1 : t.isVariantType = true) (h2 : t.hasFileType = true) :
    t.isValueType = true := by
  cases t <;> first | rfl | exact Bool.noConfusion h2 | exact Bool.noConfusion h1

theorem values_eq (p : PropSt V D) :
    p.values = if p.dtype.isValueType then p.cells.map (Variant.mk p.dtype) else [] := by
  unfold PropSt.values
  cases p.cells <;> simp

theorem values_of_cells (p : PropSt V D) (vs : List (Variant V)) (hc : p.cells = vs.map (·.val))
    (h : ∀ v ∈ vs, v.ty = p.dtype ∧ p.dtype.isValueType = true) : p.values = vs ∧ p.valueCount = vs.length := by
  refine ⟨?_, by rw [PropSt.valueCount, hc, List.length_map]⟩
  rw [values_eq, hc]
  cases vs with
  | nil => split <;> rfl
  | cons v0 rest =>
    rw [if_pos (h v0 List.mem_cons_self).2, List.map_map]
    exact (List.map_congr_left fun v hv => by rw [← (h v hv).1]; rfl).trans (List.map_id _)

/-- `hp` and `hv` leave the value types: of the others `.other` is the type of no Variant and `.nothing` that of no
    property, and there an accepted assignment stores no payload (`assign_eq`) -/
theorem assign_accepted (p : PropSt V D) (vs : List (Variant V)) (hp : p.dtype.hasFileType = true)
    (hv : ∀ v ∈ vs, v.ty.isVariantType = true) (h : (p.assign zero vs).2 = none) :
    (∀ v ∈ vs, v.ty = p.dtype ∧ p.dtype.isValueType = true) ∧ (p.assign zero vs).1 = { p with cells := vs.map (·.val) } := by
  have hall := (assign_accepted_iff zero p vs).1 h
  have hvt : ∀ v ∈ vs, p.dtype.isValueType = true := fun v hm => valueType_of_variant_file _ (hall v hm ▸ hv v hm) hp
  refine ⟨fun v hm => ⟨hall v hm, hvt v hm⟩, ?_⟩
  rw [assign_eq, if_pos hall, if_neg]
  rintro ⟨hne, hf⟩
  obtain ⟨v, hm⟩ := List.exists_mem_of_ne_nil vs hne
  rw [hvt v hm] at hf; cases hf

/-- **values_roundtrip** — after an accepted assignment `values()` returns exactly the assigned vector (types, order,
    length, any length including 0) and `valueCount()` its length -/
theorem values_roundtrip (p : PropSt V D) (vs : List (Variant V)) (hp : p.dtype.hasFileType = true)
    (hv : ∀ v ∈ vs, v.ty.isVariantType = true) (h : (p.assign zero vs).2 = none) :
    (p.assign zero vs).1.values = vs ∧ (p.assign zero vs).1.valueCount = vs.length := by
  obtain ⟨h1, h2⟩ := assign_accepted zero p vs hp hv h
  rw [h2]; exact values_of_cells _ vs rfl h1

/-- **replace_changes_count** — a second assignment replaces the first entirely: values and count are those of the
    second vector, whether it is shorter, longer or empty -/
theorem replace_changes_count (p : PropSt V D) (vs1 vs2 : List (Variant V)) (hp : p.dtype.hasFileType = true)
    (hv : ∀ v ∈ vs2, v.ty.isVariantType = true)
    (h2 : (((p.assign zero vs1).1).assign zero vs2).2 = none) :
    (((p.assign zero vs1).1).assign zero vs2).1.values = vs2 ∧
    (((p.assign zero vs1).1).assign zero vs2).1.valueCount = vs2.length :=
  values_roundtrip zero _ vs2 (by rw [(assign_keeps_attributes zero p vs1).1]; exact hp) hv h2

/-- **clear_empty** — `deleteValues()`, `values(none)` and the empty vector leave no value; type and attributes stay -/
theorem clear_empty (p : PropSt V D) :
    (p.deleteValues zero).values = [] ∧ (p.deleteValues zero).valueCount = 0 ∧
    (p.deleteValues zero).dtype = p.dtype ∧ (p.deleteValues zero).unit = p.unit ∧
    (p.deleteValues zero).unc = p.unc ∧ (p.deleteValues zero).defn = p.defn ∧
    p.assign zero [] = (p.deleteValues zero, none) := by
  refine ⟨?_, ?_, ?_, ?_, ?_, ?_, rfl⟩ <;> rw [deleteValues_eq] <;> rfl

theorem setUnit_eq (p : PropSt V D) (u : String) : p.setUnit u = { p with unit := normUnit (some u) } := by
  simp only [PropSt.setUnit, normUnit]; split <;> rfl

/-- **unit roundtrip** — the unit read back is the one set, without blanks; an all-blank unit unsets it; values,
    type, uncertainty and definition are untouched -/
theorem unit_roundtrip (p : PropSt V D) (u : String) :
    (p.setUnit u).unit = normUnit (some u) ∧ (p.setUnit u).cells = p.cells ∧ (p.setUnit u).dtype = p.dtype ∧
    (p.setUnit u).unc = p.unc ∧ (p.setUnit u).defn = p.defn := by
  simp only [setUnit_eq, and_self]

theorem deblank_idem (u : String) : deblank (deblank u) = deblank u := by
  simp [deblank, List.filter_filter]

theorem normUnit_idem (u : Option String) : normUnit (normUnit u) = normUnit u := by
  cases u with
  | none => rfl
  | some u => by_cases he : (deblank u).isEmpty <;> simp [normUnit, he, deblank_idem]

/-- writing back the unit that was read changes nothing -/
theorem unit_reread_stable (p : PropSt V D) (u w : String) (h : (p.setUnit u).unit = some w) :
    ((p.setUnit u).setUnit w).unit = some w := by
  rw [(unit_roundtrip p u).1] at h
  rw [(unit_roundtrip _ w).1, ← h, normUnit_idem]

/-- **definition roundtrip** — a non-empty definition is stored as it is; the empty string is refused without trace -/
theorem definition_roundtrip (p : PropSt V D) (s : String) :
    (s.isEmpty = false → p.setDefinition s = ({ p with defn := some s }, none)) ∧
    (s.isEmpty = true → p.setDefinition s = (p, some .emptyString)) := by
  unfold PropSt.setDefinition
  constructor <;> intro h <;> simp [h]

/-! ### the section and its history

  Every call other than `reopen` is addressed to one property `name` and leaves a section that differs from the old
  one at `name` only (`Upd`).  A call that is accepted and recorded does to that property what the recorded event says
  (`Ev.apply`), and the history rules follow the event in the same way (`AgreeAt.cons`).  `step_outcome` says the first
  for every call; every theorem below about `step` is read off it. -/

def _root_.Nix.PV.Op.target : Op V D → Option String
  | .createDtype n _ | .createValues n _ | .createValue n _ | .assign n _ | .clear n | .setUnit n _ | .setUnc n _
  | .setDef n _ | .delete n => some n
  | .reopen _ => none

/-- the event an accepted call is recorded as (exactly what the driver records for the implementation) -/
def evOf (s : SecSt V D) : Op V D → Option (Ev V D)
  | .createDtype name dt => some (.created name dt none)
  | .createValues name vs => some (.created name ((vs.head?.map (·.ty)).getD .nothing) (some vs))
  | .createValue name v => some (.created name v.ty (some [v]))
  | .assign name vs => some (.assigned name vs)
  | .clear name => some (.cleared name)
  | .setUnit name u => some (.unit name u)
  | .setUnc name d => some (.unc name d)
  | .setDef name d => some (.defn name d)
  | .delete name => if (s.find name).isSome then some (.deleted name) else none
  | .reopen w => some (.reopened w)

def record (s : SecSt V D) (op : Op V D) (h : List (Ev V D)) : List (Ev V D) :=
  match (step zero s op).2, evOf s op with
  | none, some e => e :: h
  | _, _ => h

def runH : SecSt V D → List (Ev V D) → List (Op V D) → SecSt V D × List (Ev V D)
  | s, h, [] => (s, h)
  | s, h, op :: ops => runH (step zero s op).1 (record zero s op h) ops

/-- the values offered by a call are Variants (one of the seven types, or Nothing) -/
def WFOp : Op V D → Prop
  | .createValues _ vs => ∀ v ∈ vs, v.ty.isVariantType = true
  | .createValue _ v => v.ty.isVariantType = true
  | .assign _ vs => ∀ v ∈ vs, v.ty.isVariantType = true
  | _ => True

def ValOK (p : PropSt V D) : Known (List (Variant V)) → Prop
  | .is vs => p.values = vs ∧ p.valueCount = vs.length
  | .unspecified => True
  | .absent => False

structure AgreeP (name : String) (h : List (Ev V D)) (p : PropSt V D) : Prop where
  ty : typeOf name h = some p.dtype
  file : p.dtype.hasFileType = true   -- no rule of the history: `newDataset` makes no other property, `assign_accepted` needs it
  vals : ValOK p (lastValues name h)
  unit : lastUnit name h = .is p.unit
  unc : lastUnc name h = .is p.unc
  defn : lastDef name h = .is p.defn

def AgreeAt (name : String) (h : List (Ev V D)) : Option (PropSt V D) → Prop
  | none => typeOf name h = none
  | some p => AgreeP name h p

def Agree (s : SecSt V D) (h : List (Ev V D)) : Prop :=
  (∀ name, AgreeAt name h (s.find name)) ∧ writableAfter h = s.writable

def Ev.target : Ev V D → Option String
  | .created n _ _ | .assigned n _ | .cleared n | .unit n _ | .unc n _ | .defn n _ | .deleted n => some n
  | .reopened _ => none

/-- the property after an accepted event about it: clause by clause what the history rules do with it (of a property
    created from a type only they say nothing: it is the data set `createDtype` makes) -/
def Ev.apply : Ev V D → Option (PropSt V D) → Option (PropSt V D)
  | .created _ dt init, _ => some { dtype := dt, cells := match init with
      | some vs => vs.map (·.val)
      | none => List.replicate Nix.Gen.defaultPropertySize (zero dt) }
  | .deleted _, _ => none
  | .assigned _ vs, o => o.map ({ · with cells := vs.map (·.val) })
  | .cleared _, o => o.map ({ · with cells := [] })
  | .unit _ u, o => o.map ({ · with unit := normUnit u })
  | .unc _ d, o => o.map ({ · with unc := d })
  | .defn _ d, o => o.map ({ · with defn := d })
  | .reopened _, o => o

/-- what is known of an accepted event about the property `o` (a reopen is about none) -/
def Ev.fits : Ev V D → Option (PropSt V D) → Prop
  | .reopened _, _ => False
  | .created _ dt init, _ => dt.hasFileType = true ∧ ∀ v ∈ init.getD [], v.ty = dt ∧ dt.isValueType = true
  | .deleted _, _ => True
  | _, none => False
  | .assigned _ vs, some p => ∀ v ∈ vs, v.ty = p.dtype ∧ p.dtype.isValueType = true
  | _, some _ => True

theorem AgreeAt.cons {name : String} {h : List (Ev V D)} {o : Option (PropSt V D)} (ha : AgreeAt name h o) (ev : Ev V D)
    (htar : Ev.target ev = some name) (hfit : ev.fits o) : AgreeAt name (ev :: h) (ev.apply zero o) := by
  cases ev <;> first | exact hfit.elim | cases htar
  case created dt init =>
    show AgreeP name _ _
    refine ⟨by simp [typeOf], hfit.1, ?_, by simp [lastUnit], by simp [lastUnc], by simp [lastDef]⟩
    cases init with
    | none => simp [lastValues, ValOK]
    | some vs => simpa [lastValues, ValOK] using values_of_cells { dtype := dt, cells := _ } vs rfl hfit.2
  case deleted => exact (by simp [typeOf] : typeOf name (.deleted name :: h) = none)
  all_goals
    rcases o with _ | p
    · exact hfit.elim
    obtain ⟨h1, h2, h3, h4, h5, h6⟩ := (ha : AgreeP name h p)
    show AgreeP name _ _
    refine ⟨by simp [typeOf, h1], h2, ?_, by simp [lastUnit, h4], by simp [lastUnc, h5], by simp [lastDef, h6]⟩
  -- left are the values: after an assignment, after a clearing, and after three events that do not touch them
  · simpa [lastValues, ValOK] using values_of_cells { p with cells := _ } _ rfl hfit
  · simp [lastValues, ValOK, values_eq, PropSt.valueCount]
  all_goals exact h3

/-- the outcome `r` of making the property `q` under a name that is free, which is why `Upd s name none` says "no trace" -/
def Made (s : SecSt V D) (name : String) (dt : DType) (q : PropSt V D) (r : SecSt V D × Option Err) : Prop :=
  ((∃ e, r.2 = some e) ∧ Upd s name none r.1) ∨ (r.2 = none ∧ s.writable = true ∧ dt.hasFileType = true ∧ Upd s name (some q) r.1)

theorem eq_true_of_not_bnot {b : Bool} (h : ¬(!b) = true) : b = true := Bool.of_not_eq_false (Bool.not_eq_true' b ▸ h)

theorem newDataset_made (s : SecSt V D) (name : String) (dt : DType) (n : Nat) (hnew : s.find name = none) :
    Made s name dt { dtype := dt, cells := List.replicate n (zero dt) } (s.newDataset zero name dt n) := by
  -- a refusal may leave the "properties" group behind, which `find` does not see
  have h0 : ∀ g, Upd s name none { s with grp := g } := fun g => hnew ▸ Upd.of_props name rfl rfl
  unfold SecSt.newDataset
  iterate 3
    split
    · exact .inl ⟨⟨_, rfl⟩, h0 _⟩
  exact .inr ⟨rfl, eq_true_of_not_bnot ‹_›, eq_true_of_not_bnot ‹_›, append_upd s name _ _ hnew⟩

theorem createGuard_none (s : SecSt V D) (name : String) (hg : s.createGuard name = none) : s.find name = none := by
  unfold SecSt.createGuard at hg
  split at hg
  · cases hg
  · cases hf : s.find name with
    | none => rfl
    | some p => simp [hf] at hg

theorem createWith_made (s : SecSt V D) (name : String) (dt : DType) (k : Nat) (vs : List (Variant V))
    (hu : ∀ v ∈ vs, v.ty = dt) (hnew : s.find name = none) :
    Made s name dt (({ dtype := dt, cells := List.replicate k (zero dt) } : PropSt V D).assign zero vs).1
      (s.createWith zero name dt k vs) := by
  have hnd := newDataset_made zero s name dt k hnew
  unfold SecSt.createWith
  cases hs : s.newDataset zero name dt k with
  | mk s1 r =>
    rw [hs] at hnd
    rcases hnd with ⟨⟨e, rfl⟩, hup⟩ | ⟨rfl, hw, hf, hup⟩
    · exact .inl ⟨⟨e, rfl⟩, hup⟩
    · have hf1 : s1.find name = some _ := (hup.2 name).trans (if_pos rfl)
      have hon := onProp_upd s1 name fun p => p.assign zero vs
      rw [hf1] at hon
      exact .inr ⟨by rw [onProp_err, hf1]; exact (assign_accepted_iff zero _ vs).2 hu, hw, hf, hup.trans hon⟩

/-- what one call addressed to `name` does.  The section changes at `name` only; either nothing is recorded and the
    property is as before, or the file was writable, the call is recorded as an event about `name`, and — under the two
    premises `step_agree` can supply: the values offered are Variants, the property there was has a file
    representation — the event fits and the property found afterwards is what it makes -/
def Outcome (s : SecSt V D) (op : Op V D) (name : String) : Prop :=
  ∃ o, Upd s name o (step zero s op).1 ∧
    ((o = s.find name ∧ ((∃ e, (step zero s op).2 = some e) ∨ evOf s op = none)) ∨
     ((step zero s op).2 = none ∧ s.writable = true ∧ ∃ ev, evOf s op = some ev ∧ Ev.target ev = some name ∧
        (WFOp op → (∀ p, s.find name = some p → p.dtype.hasFileType = true) →
          ev.fits (s.find name) ∧ o = ev.apply zero (s.find name))))

theorem Outcome.refused {s : SecSt V D} {op : Op V D} (name : String) {e : Err} (hst : step zero s op = (s, some e)) :
    Outcome zero s op name :=
  ⟨_, by rw [hst]; exact Upd.refl s name, .inl ⟨rfl, .inl ⟨e, by rw [hst]⟩⟩⟩

/-- the three `createProperty` overloads as one function.  Only `createProperty(name, values)` checks that the values
    are of one type; a single value passes that check and without values there is none to make, so it stands here for
    all three -/
def create (s : SecSt V D) (name : String) (dt : DType) (k : Nat) (init : Option (List (Variant V))) : SecSt V D × Option Err :=
  match s.createGuard name with
  | some e => (s, some e)
  | none =>
    if (init.getD []).any (fun v => v.ty ≠ dt) then (s, some .stdInvalidArgument) else
    match init with
    | none => s.newDataset zero name dt k
    | some vs => s.createWith zero name dt k vs

theorem create_outcome (s : SecSt V D) (op : Op V D) (name : String) (dt : DType) (k : Nat) (init : Option (List (Variant V)))
    (hst : step zero s op = create zero s name dt k init) (hev : evOf s op = some (.created name dt init))
    (hk : init = none → k = Nix.Gen.defaultPropertySize)
    (hwf : WFOp op → ∀ v ∈ init.getD [], v.ty.isVariantType = true) : Outcome zero s op name := by
  unfold create at hst
  cases hg : s.createGuard name with
  | some e => exact .refused zero name (e := e) (by rw [hst, hg])
  | none =>
    rw [hg] at hst
    have hnew := createGuard_none s name hg
    by_cases hu : ∀ v ∈ init.getD [], v.ty = dt
    case neg => exact .refused zero name (hst.trans (if_pos ((any_ne_iff _ _).2 hu)))
    rw [if_neg (mt (any_ne_iff _ _).1 (not_not_intro hu))] at hst
    -- guard and type check have let it through: the property `q` is made under a name that is free
    have made : ∀ q, Made s name dt q (step zero s op) →
        (dt.hasFileType = true → WFOp op → (Ev.created name dt init).fits (none : Option (PropSt V D)) ∧
          some q = (Ev.created name dt init).apply zero none) → Outcome zero s op name := by
      intro q hm hq
      unfold Outcome
      rw [hnew]
      rcases hm with ⟨he, hup⟩ | ⟨he, hw, hf, hup⟩
      · exact ⟨_, hup, .inl ⟨rfl, .inl he⟩⟩
      · exact ⟨_, hup, .inr ⟨he, hw, _, hev, rfl, fun hwf _ => hq hf hwf⟩⟩
    cases init with
    | none =>
      cases hk rfl
      exact made _ (by rw [hst]; exact newDataset_made zero s name dt _ hnew) fun hf _ => ⟨⟨hf, nofun⟩, rfl⟩
    | some vs =>
      refine made _ (by rw [hst]; exact createWith_made zero s name dt k vs hu hnew) fun hf hw => ?_
      have ha := assign_accepted zero ({ dtype := dt, cells := List.replicate k (zero dt) } : PropSt V D) vs hf (hwf hw)
        ((assign_accepted_iff zero _ vs).2 hu)
      exact ⟨⟨hf, ha.1⟩, congrArg some ha.2⟩

theorem onProp_outcome (s : SecSt V D) (op : Op V D) (name : String) (f : PropSt V D → PropSt V D × Option Err) (ev : Ev V D)
    (hst : step zero s op = s.onProp name f) (hev : evOf s op = some ev) (htar : Ev.target ev = some name)
    (hf : ∀ p, (∃ e, f p = (p, some e)) ∨ ((f p).2 = none ∧ s.writable = true ∧
      (WFOp op → p.dtype.hasFileType = true → ev.fits (some p) ∧ some (f p).1 = ev.apply zero (some p)))) :
    Outcome zero s op name := by
  unfold Outcome
  rw [hst, onProp_err]
  refine ⟨_, onProp_upd s name f, ?_⟩
  cases hp : s.find name with
  | none => exact .inl ⟨rfl, .inl ⟨_, rfl⟩⟩
  | some p =>
    rcases hf p with ⟨e, he⟩ | ⟨he, hw, hok⟩
    · exact .inl ⟨congrArg some (congrArg Prod.fst he), .inl ⟨e, congrArg Prod.snd he⟩⟩
    · exact .inr ⟨he, hw, ev, hev, htar, fun hwf hfile => hok hwf (hfile p rfl)⟩

def _root_.Nix.PV.Op.isMut : Op V D → Bool
  | .assign .. | .clear _ | .setUnit .. | .setUnc .. | .setDef .. => true
  | _ => false

theorem mut_outcome (s : SecSt V D) (op : Op V D) (name : String) (hm : op.isMut = true) (htar : op.target = some name) :
    Outcome zero s op name := by
  cases hw : s.writable
  · -- a read-only file: whatever a mutator checks first, every branch of it refuses and returns `p`
    cases op <;> first
      | exact Bool.noConfusion hm
      | (cases htar; refine onProp_outcome zero s _ name _ _ rfl rfl rfl fun p => .inl ?_)
    all_goals simp only [hw, Bool.false_eq_true, Bool.not_false, ↓reduceIte]; repeat' split
    all_goals exact ⟨_, rfl⟩
  · cases op <;> first
      | exact Bool.noConfusion hm
      | (cases htar; refine onProp_outcome zero s _ name _ _ rfl rfl rfl fun p => ?_)
    all_goals rw [hw]
    · rename_i vs
      cases hr : (p.assign zero vs).2 with
      | none =>
        exact .inr ⟨hr, rfl, fun hwf hp => (assign_accepted zero p vs hp hwf hr).imp_right (congrArg some)⟩
      | some e => exact .inl ⟨e, Prod.ext (rejected_assign_leaves_no_trace zero p vs e hr) hr⟩
    · rw [deleteValues_eq]; exact .inr ⟨rfl, rfl, fun _ _ => ⟨trivial, rfl⟩⟩
    · rename_i u
      cases u with
      | none => exact .inr ⟨rfl, rfl, fun _ _ => ⟨trivial, rfl⟩⟩
      | some u => dsimp only; rw [setUnit_eq]; exact .inr ⟨rfl, rfl, fun _ _ => ⟨trivial, rfl⟩⟩
    · exact .inr ⟨rfl, rfl, fun _ _ => ⟨trivial, rfl⟩⟩
    · rename_i d
      cases d with
      | none => exact .inr ⟨rfl, rfl, fun _ _ => ⟨trivial, rfl⟩⟩
      | some t =>
        dsimp only
        cases ht : t.isEmpty
        · rw [(definition_roundtrip p t).1 ht]; exact .inr ⟨rfl, rfl, fun _ _ => ⟨trivial, rfl⟩⟩
        · exact .inl ⟨_, rfl⟩

theorem delete_outcome (s : SecSt V D) (name : String) : Outcome zero s (.delete name) name := by
  unfold Outcome
  simp only [step, evOf]
  cases hf : s.find name with
  | none => exact ⟨none, (hf ▸ Upd.refl s name : Upd s name none s), .inl ⟨rfl, .inr rfl⟩⟩
  | some p =>
    cases hw : s.writable
    · exact ⟨_, Upd.refl s name, .inl ⟨hf, .inl ⟨_, rfl⟩⟩⟩
    · exact ⟨none, ⟨hw.symm, fun m => lookup_filter_ne name m s.props⟩, .inr ⟨rfl, rfl, _, rfl, rfl, fun _ _ => ⟨trivial, rfl⟩⟩⟩

theorem step_outcome (s : SecSt V D) (op : Op V D) :
    (∃ w, op = .reopen w) ∨ ∃ name, op.target = some name ∧ Outcome zero s op name := by
  cases op <;> first
    | exact .inl ⟨_, rfl⟩
    | refine .inr ⟨_, rfl, ?_⟩
  case createDtype name dt =>
    exact create_outcome zero s _ name _ _ none (by simp only [step, create]; rfl) rfl (fun _ => rfl) fun _ => nofun
  case createValues name vs =>
    cases vs with
    | nil => exact .refused zero name rfl
    | cons v0 rest => exact create_outcome zero s _ name v0.ty _ (some (v0 :: rest)) rfl rfl nofun id
  case createValue name v =>
    exact create_outcome zero s _ name v.ty Nix.Gen.defaultPropertySize (some [v]) (by simp [step, create]; rfl) rfl nofun
      (by simp [WFOp])
  case delete name => exact delete_outcome zero s name
  all_goals exact mut_outcome zero s _ _ rfl rfl

/-- **a rejected call leaves no trace** — whatever the call (creation with a bad or duplicate name, with an empty or
    mixed-type vector, with a type that has no file representation; assignment of another type; empty definition;
    any mutator on a read-only file; any call through an empty handle), if it raises, every property of the section is
    exactly as before and no property has appeared or disappeared -/
theorem rejected_call_leaves_no_trace (s : SecSt V D) (op : Op V D) (e : Err) (h : (step zero s op).2 = some e) :
    (step zero s op).1.writable = s.writable ∧ ∀ n, (step zero s op).1.find n = s.find n := by
  obtain ⟨w, rfl⟩ | ⟨name, _, o, hu, ⟨rfl, _⟩ | ⟨hn, _⟩⟩ := step_outcome zero s op
  · cases h
  · exact hu.same
  · rw [hn] at h; cases h

/-- **frame** — a call addressed to one property (or a reopen) leaves every other property exactly as it was -/
theorem step_frame (s : SecSt V D) (op : Op V D) (n : String) (hn : op.target ≠ some n) :
    (step zero s op).1.find n = s.find n := by
  obtain ⟨w, rfl⟩ | ⟨name, htar, o, hu, _⟩ := step_outcome zero s op
  · rfl
  · exact (hu.2 n).trans (if_neg fun h => hn (by rw [htar, h]))

/-- **reopen_preserves** — closing and reopening the file (in either mode) changes no property: values, type, unit,
    uncertainty and definition are what they were (the model keeps nothing outside the file; that HDF5 persists the
    file is established by the correspondence run) -/
theorem reopen_preserves (s : SecSt V D) (w : Bool) :
    (step zero s (.reopen w)).2 = none ∧ (step zero s (.reopen w)).1.props = s.props ∧
    (step zero s (.reopen w)).1.writable = w := ⟨rfl, rfl, rfl⟩

/-- a read-only session changes nothing: whatever is called, every property reads as before -/
theorem readonly_changes_nothing (s : SecSt V D) (op : Op V D) (hro : s.writable = false) (hop : ∀ w, op ≠ .reopen w)
    (n : String) : (step zero s op).1.find n = s.find n := by
  obtain ⟨w, hw⟩ | ⟨name, _, o, hu, ⟨rfl, _⟩ | ⟨_, hw, _⟩⟩ := step_outcome zero s op
  · exact absurd hw (hop w)
  · exact hu.same.2 n
  · rw [hro] at hw; cases hw

theorem spec_skip (name : String) (ev : Ev V D) (h : List (Ev V D)) (hne : Ev.target ev ≠ some name) :
    typeOf name (ev :: h) = typeOf name h ∧ lastValues name (ev :: h) = lastValues name h ∧
    lastUnit name (ev :: h) = lastUnit name h ∧ lastUnc name (ev :: h) = lastUnc name h ∧
    lastDef name (ev :: h) = lastDef name h := by
  cases ev <;> simp [Ev.target] at hne <;> simp [typeOf, lastValues, lastUnit, lastUnc, lastDef, hne]

theorem agreeAt_skip (name : String) (ev : Ev V D) (h : List (Ev V D)) (hne : Ev.target ev ≠ some name)
    (o : Option (PropSt V D)) (ha : AgreeAt name h o) : AgreeAt name (ev :: h) o := by
  obtain ⟨h1, h2, h3, h4, h5⟩ := spec_skip name ev h hne
  cases o with
  | none => exact h1.trans ha
  | some p => exact ⟨h1.trans ha.ty, ha.file, h2 ▸ ha.vals, h3.trans ha.unit, h4.trans ha.unc, h5.trans ha.defn⟩

theorem writableAfter_skip (ev : Ev V D) (h : List (Ev V D)) (hne : Ev.target ev ≠ none) :
    writableAfter (ev :: h) = writableAfter h := by
  cases ev <;> first | rfl | exact absurd rfl hne

theorem step_agree (s : SecSt V D) (h : List (Ev V D)) (op : Op V D) (hwf : WFOp op) (ha : Agree s h) :
    Agree (step zero s op).1 (record zero s op h) := by
  obtain ⟨w, rfl⟩ | ⟨name, _, o, hu, ⟨rfl, he⟩ | ⟨hn, _, ev, hev, hte, hag⟩⟩ := step_outcome zero s op
  · exact ⟨fun n => agreeAt_skip n _ h (by simp [Ev.target]) _ (ha.1 n), rfl⟩
  · have hrec : record zero s op h = h := by
      unfold record
      rcases he with ⟨e, he⟩ | he <;> rw [he]
      cases (step zero s op).2 <;> rfl
    rw [hrec]
    exact ⟨fun n => by rw [hu.same.2 n]; exact ha.1 n, by rw [hu.1]; exact ha.2⟩
  · have hrec : record zero s op h = ev :: h := by simp only [record, hn, hev]
    have hself := ha.1 name
    obtain ⟨hfit, rfl⟩ := hag hwf fun p hp => by rw [hp] at hself; exact hself.file
    rw [hrec]
    -- the property addressed follows its event, every other property and the write mode are as before
    refine ⟨fun n => ?_, by rw [writableAfter_skip ev h (by rw [hte]; nofun), ha.2, hu.1]⟩
    rw [hu.2 n]
    split
    · subst ‹n = name›; exact hself.cons zero ev hte hfit
    · exact agreeAt_skip n ev h (by rw [hte]; simpa using fun h => ‹¬n = name› h.symm) _ (ha.1 n)

theorem agree_empty : Agree ({} : SecSt V D) ([] : List (Ev V D)) :=
  ⟨fun _ => by simp [SecSt.find, AgreeAt, typeOf], rfl⟩

theorem history_agree : ∀ (ops : List (Op V D)) (s : SecSt V D) (h : List (Ev V D)), Agree s h → (∀ op ∈ ops, WFOp op) →
    Agree (runH zero s h ops).1 (runH zero s h ops).2
  | [], _, _, ha, _ => ha
  | op :: ops, s, h, ha, hwf =>
    history_agree ops _ _ (step_agree zero s h op (hwf op (by simp)) ha) (fun o ho => hwf o (by simp [ho]))

theorem runH_state : ∀ (ops : List (Op V D)) (s : SecSt V D) (h : List (Ev V D)), (runH zero s h ops).1 = run zero s ops
  | [], _, _ => rfl
  | _ :: ops, _, _ => runH_state ops _ _

theorem run_agree (ops : List (Op V D)) (hwf : ∀ op ∈ ops, WFOp op) : Agree (run zero {} ops) (runH zero {} [] ops).2 :=
  runH_state zero ops {} [] ▸ history_agree zero ops {} [] agree_empty hwf

/-- what `pv_get` observes of a property of the model -/
def obsOf (p : PropSt V D) : Obs V D :=
  { dtype := p.dtype, count := p.valueCount, values := p.values, unit := p.unit, unc := p.unc, defn := p.defn }

theorem values_length (p : PropSt V D) (h : p.dtype.isValueType = true) : p.values.length = p.valueCount := by
  rw [values_eq, if_pos h, List.length_map]; rfl

theorem values_typed (p : PropSt V D) : ∀ v ∈ p.values, v.ty = p.dtype := by
  rw [values_eq]
  split
  · intro v hv; obtain ⟨a, _, rfl⟩ := List.mem_map.1 hv; rfl
  · nofun

section
variable [DecidableEq V] [DecidableEq D]

theorem rel_of_agree (name : String) (h : List (Ev V D)) (p : PropSt V D) (ha : AgreeP name h p) :
    Rel name h (obsOf p) = true := by
  have hv : relValues name h (obsOf p) = true := by
    have := ha.vals
    unfold relValues
    cases hk : lastValues name h with
    | is vs => rw [hk] at this; simp [obsOf, this.1, this.2]
    | unspecified => cases ht : p.dtype.isValueType <;> simp [obsOf, ht, values_length]
    | absent => rw [hk] at this; exact this.elim
  have ht : relType name h (obsOf p) = true := by simpa [relType, obsOf, ha.ty] using values_typed p
  rw [Rel, hv, ht]
  simp [relUnit, relUnc, relDef, obsOf, ha.unit, ha.unc, ha.defn]

/-- **history_last_assigned** — THE PROPERTY, for the model.  Start from an empty section, make any sequence of calls
    (creations through the three overloads, assignments of any vectors, clearings, unit / uncertainty / definition
    changes, deletions and re-creations, reopens in either mode — accepted or refused).  Then every property that
    exists satisfies the relation `Rel` against the history of ACCEPTED calls: its values are those of the last accepted
    assignment / clearing / creation-from-values (count = length), its type is the creation type, its unit is the last
    one set without blanks, its uncertainty and definition the last ones set; and a property that does not exist has no
    live creation in the history (nothing was left behind by a refused call, nothing survives a deletion). -/
theorem history_last_assigned (ops : List (Op V D)) (hwf : ∀ op ∈ ops, WFOp op) (name : String) :
    match (run zero {} ops).find name with
    | some p => Rel name (runH zero {} [] ops).2 (obsOf p) = true
    | none => typeOf name (runH zero {} [] ops).2 = none := by
  have := (run_agree zero ops hwf).1 name
  cases hf : (run zero {} ops).find name with
  | none => rw [hf] at this; exact this
  | some p => rw [hf] at this; exact rel_of_agree name _ p this
end

/-- the same, spelled out for the values: whenever the history designates a vector, that is what `values()` returns -/
theorem history_values (ops : List (Op V D)) (hwf : ∀ op ∈ ops, WFOp op) (name : String) (p : PropSt V D)
    (hf : (run zero {} ops).find name = some p) (vs : List (Variant V))
    (hl : lastValues name (runH zero {} [] ops).2 = .is vs) : p.values = vs ∧ p.valueCount = vs.length := by
  have := (run_agree zero ops hwf).1 name
  rw [hf] at this
  have hv := this.vals
  rwa [hl] at hv

/-! ### non-vacuity: concrete histories (values and doubles are natural-number tokens) -/

def z : DType → Nat := fun _ => 0
def i32 (n : Nat) : Variant Nat := ⟨.int32, n⟩
def str (n : Nat) : Variant Nat := ⟨.string, n⟩

/-- create from values, replace by a longer and a shorter vector, a refused mixed vector, unit with blanks, reopen
    read-only, a refused assignment, reopen, a refused creation from a mixed vector (DP1), delete and re-create under
    the same name with another type, a call through an empty handle -/
def demoOps : List (Op Nat Nat) :=
  [.createValues "p" [i32 1, i32 2], .assign "p" [i32 7, i32 8, i32 9], .setUnit "p" (some " m V"), .setUnc "p" (some 5),
   .assign "p" [i32 1, str 2], .createDtype "q" .double, .reopen false, .assign "p" [i32 4], .reopen true,
   .assign "p" [i32 3], .createValues "r" [str 1, i32 2], .delete "q", .createValue "q" (str 11), .clear "r"]

instance : (op : Op Nat Nat) → Decidable (WFOp op)
  | .createValues _ vs => by unfold WFOp; infer_instance
  | .createValue _ v => by unfold WFOp; infer_instance
  | .assign _ vs => by unfold WFOp; infer_instance
  | .createDtype _ _ | .clear _ | .setUnit _ _ | .setUnc _ _ | .setDef _ _ | .delete _ | .reopen _ => isTrue trivial
example : ∀ op ∈ demoOps, WFOp op := by decide +kernel
example : ((run z {} demoOps).find "p").map (fun p => (p.values, p.valueCount, p.unit, p.unc)) =
    some ([i32 3], 1, some "mV", some 5) := by decide +kernel
example : ((run z {} demoOps).find "q").map (fun p => (p.dtype, p.values)) = some (.string, [str 11]) := by decide +kernel
example : ((run z {} demoOps).find "r").isNone = true := by decide +kernel
example : (match lastValues "p" (runH z {} [] demoOps).2 with | .is vs => vs == [i32 3] | _ => false) = true := by decide +kernel
example : (demoOps.map fun op => (step z (run z {} (demoOps.take 4)) op).2).take 5 =
    [some .duplicateName, none, none, none, some .stdInvalidArgument] := by decide +kernel
-- the rules can fail: an observation that kept the refused vector violates the relation
example : Rel "p" (runH z {} [] demoOps).2
    { dtype := .int32, count := 1, values := [i32 4], unit := some "mV", unc := some 5, defn := none } = false := by decide +kernel
example : let r := ({ dtype := .int32, cells := [1, 2, 3] } : PropSt Nat Nat).assign z [i32 1, str 2]
    (r.1.cells, r.2) = ([1, 2, 3], some Err.stdInvalidArgument) := by decide +kernel

end Nix.C14
