import NixModel.Props.C08
/-
  C08, completed: createMultiTag and createFeature.

  Both entry points look the array up TWICE: the front end checks that it is in the block (by name and id of the handle, resp. by
  its id), the backend creates and initialises the entity group and then looks the array up again by its id to make the
  `positions` / `data` link.  If that second lookup could fail, the call would throw and leave the new entity behind (this is what
  D9 was on the pinned tree, before the front-end check existed).  The theorems show that it cannot: creating the entity only
  EXTENDS the store (`Extends`: old objects keep attributes and kind, links grow at the end, towards groups), and a lookup by id
  that succeeded keeps succeeding in an extended store.  Provisos, all true of every state the library produces: handles denote
  objects that carry a name and a well-formed id, the arrays container holds groups only, a new feature id is fresh.
  With them `rejected_no_trace` covers EVERY entry point of the store model.
-/
namespace Nix.St
open Store

structure Extends (s s' : Store) : Prop where
  len : s.objs.length ≤ s'.objs.length
  attrs : ∀ o k, o < s.objs.length → s'.attr? o k = s.attr? o k
  kind : ∀ o, o < s.objs.length → s'.isGroupObj o = s.isGroupObj o
  links : ∀ o, o < s.objs.length → ∃ ext, s'.linksOf o = s.linksOf o ++ ext ∧ ∀ l ∈ ext, s'.isGroupObj l.2 = true

theorem Extends.refl (s : Store) : Extends s s :=
  ⟨Nat.le_refl _, fun _ _ _ => rfl, fun _ _ => rfl, fun _ _ => ⟨[], by simp, by simp⟩⟩

theorem Extends.group {s s' : Store} (h : Extends s s') {o : ObjId} (hg : s.isGroupObj o = true) : s'.isGroupObj o = true := by
  rw [h.kind o (isGroupObj_lt hg)]; exact hg

theorem Extends.trans {a b c : Store} (h1 : Extends a b) (h2 : Extends b c) : Extends a c := by
  refine ⟨Nat.le_trans h1.len h2.len, ?_, ?_, ?_⟩
  · intro o k ho; rw [h2.attrs o k (Nat.lt_of_lt_of_le ho h1.len), h1.attrs o k ho]
  · intro o ho; rw [h2.kind o (Nat.lt_of_lt_of_le ho h1.len), h1.kind o ho]
  · intro o ho
    obtain ⟨e1, he1, hg1⟩ := h1.links o ho
    obtain ⟨e2, he2, hg2⟩ := h2.links o (Nat.lt_of_lt_of_le ho h1.len)
    refine ⟨e1 ++ e2, by rw [he2, he1, List.append_assoc], ?_⟩
    intro l hl
    rcases List.mem_append.mp hl with hl | hl
    · exact h2.group (hg1 l hl)
    · exact hg2 l hl

theorem Extends.setAttr_new {s0 s : Store} (h : Extends s0 s) (g : ObjId) (k v : String) (hg : s0.objs.length ≤ g) :
    Extends s0 (s.setAttr g k v) := by
  refine ⟨by rw [length_setAttr]; exact h.len, ?_, ?_, ?_⟩
  · intro o k' ho
    rw [attr?_setAttr, if_neg (fun hc => Nat.ne_of_lt (Nat.lt_of_lt_of_le ho hg) hc.1)]; exact h.attrs o k' ho
  · intro o ho; rw [isGroupObj_setAttr]; exact h.kind o ho
  · intro o ho
    obtain ⟨e, he, hge⟩ := h.links o ho
    exact ⟨e, by rw [linksOf_setAttr]; exact he, fun l hl => by rw [isGroupObj_setAttr]; exact hge l hl⟩

set_option linter.unusedVariables false in -- `hg`: the proof does not need it
theorem Extends.openGroupCreate (s : Store) (g : ObjId) (n : String) (hg : g < s.objs.length) : Extends s (s.openGroupCreate g n).1 := by
  rcases openGroupCreate_cases s g n with ⟨x, _, h⟩ | ⟨_, h⟩ <;> rw [h]
  · exact .refl s
  · refine ⟨by rw [length_addLink, length_alloc]; exact Nat.le_succ _,
      fun o k ho => by rw [attr?_addLink, attr?_alloc, if_neg (Nat.ne_of_lt ho)],
      fun o ho => by rw [isGroupObj_addLink, isGroupObj_alloc, if_neg (Nat.ne_of_lt ho)], fun o ho => ?_⟩
    rw [linksOf_addLink, linksOf_alloc, if_neg (Nat.ne_of_lt ho)]
    split
    · exact ⟨[(n, s.objs.length)], rfl, fun l hl => by rw [List.mem_singleton.mp hl, isGroupObj_addLink, isGroupObj_alloc, if_pos rfl]⟩
    · exact ⟨[], by simp, by simp⟩

theorem Extends.mk2 (s : Store) (par : ObjId) (cn n : String) (hpar : par < s.objs.length) : Extends s (St.mk2 s par cn n).1 :=
  (Extends.openGroupCreate s par cn hpar).trans (.openGroupCreate _ _ n (openGroupCreate_snd_lt s par cn))

theorem Extends.named_new {s0 : Store} {p : Store × ObjId} (h : Extends s0 p.1) (id type name created : String) (hg : s0.objs.length ≤ p.2) :
    Extends s0 (St.named p id type name created) :=
  (((h.setAttr_new _ _ _ hg).setAttr_new _ _ _ hg).setAttr_new _ _ _ hg).setAttr_new _ _ _ hg

theorem createInBlock_extends (s : Store) (b : ObjId) (k n t i c : String) (hb : b < s.objs.length) :
    Extends s (createInBlock s b k n t i c).1 :=
  (createInBlock_shape s b k n t i c).elim (.refl s) fun hG => (Extends.mk2 s b _ n hb).named_new _ _ _ _ (mk2_new hb hG)

theorem Extends.optGroup {s s' : Store} (h : Extends s s') {o p : ObjId} {n : String} (ho : o < s.objs.length)
    (hp : s.optGroup o n = some p) : s'.optGroup o n = some p := by
  obtain ⟨hn, hc, hg⟩ := optGroup_some.mp hp
  obtain ⟨ext, he, _⟩ := h.links o ho
  refine optGroup_some.mpr ⟨hn, ?_, h.group hg⟩
  unfold child? at hc ⊢
  rw [he, List.lookup_append, hc]; rfl

theorem Extends.groups_only {s s' : Store} (h : Extends s s') {p : ObjId} (hp : p < s.objs.length)
    (hg : ∀ l ∈ s.linksOf p, s.isGroupObj l.2 = true) : ∀ l ∈ s'.linksOf p, s'.isGroupObj l.2 = true := by
  obtain ⟨ext, he, hge⟩ := h.links p hp
  intro l hl
  rw [he] at hl
  rcases List.mem_append.mp hl with h1 | h1
  · exact h.group (hg l h1)
  · exact hge l h1

/-- the second lookup of createMultiTag / createFeature (by the id alone, in the store after the entity group has been made)
    succeeds by the link that made the front end's lookup succeed: links are only appended, old objects keep their attributes -/
theorem blkFind_id_after_extend {s s' : Store} (hext : Extends s s') {blk p : ObjId} {kind id : String} (hb : blk < s.objs.length)
    (hp : s.optGroup blk (blockContainer kind) = some p) (hid : id.isEmpty = false)
    (hgroups : ∀ l ∈ s.linksOf p, s.isGroupObj l.2 = true) {l : String × ObjId} (hl : l ∈ s.linksOf p)
    (h : l.1 = id ∨ s.attr? l.2 "entity_id" = some id) : (blkFind s' blk kind "" id).isSome = true := by
  have hpl : p < s.objs.length := isGroupObj_lt (optGroup_some.mp hp).2.2
  obtain ⟨ext, he, _⟩ := hext.links p hpl
  refine (blkFind_by_id_isSome (hext.optGroup hb hp) hid (hext.groups_only hpl hgroups)).mpr
    ⟨l, by rw [he]; exact List.mem_append_left _ hl, h.imp_right fun ha => ?_⟩
  rw [hext.attrs _ _ (isGroupObj_lt (hgroups l hl))]; exact ha

theorem blkFind_id_transport {s s' : Store} (hext : Extends s s') (blk : ObjId) (kind id : String) (hb : blk < s.objs.length)
    (hid : id.isEmpty = false)
    (hgroups : ∀ p, s.optGroup blk (blockContainer kind) = some p → ∀ l ∈ s.linksOf p, s.isGroupObj l.2 = true)
    (h : (blkFind s blk kind "" id).isSome = true) : (blkFind s' blk kind "" id).isSome = true := by
  cases hp : s.optGroup blk (blockContainer kind) with
  | none => rw [blkFind_id_eq s blk kind hid, hp] at h; cases h
  | some p =>
    obtain ⟨l, hl, hh⟩ := (blkFind_by_id_isSome hp hid (hgroups p hp)).mp h
    exact blkFind_id_after_extend hext hb hp hid (hgroups p hp) hl hh

theorem looksLikeUUID_nonempty {v : String} (h : looksLikeUUID v = true) : v.isEmpty = false := by
  cases hv : v.isEmpty with
  | false => rfl
  | true =>
    have : v = "" := by simpa using hv
    subst this
    simp [looksLikeUUID] at h

/-- C08 for createMultiTag: refused ⇒ nothing happened.  The positions handle denotes an object with a name and a well-formed id
    (what every handle obtained from the library has), and the arrays container of the block holds groups only. -/
theorem createMultiTag_rejected (s : Store) (blk : ObjId) (n t i c : String) (ph : Option Handle) (hb : blk < s.objs.length)
    (hgroups : ∀ p, s.optGroup blk (blockContainer "A") = some p → ∀ l ∈ s.linksOf p, s.isGroupObj l.2 = true)
    (hph : ∀ h, ph = some h → looksLikeUUID (idOf s h.obj) = true ∧ (nameOf s h.obj).isEmpty = false ∧ h.obj < s.objs.length) :
    Atomic s (createMultiTag s blk n t i c ph) := by
  intro e h
  cases ph with
  | none => obtain ⟨_, e'⟩ := createMultiTag_none s blk n t i c; rw [e']
  | some hh =>
  refine (createMultiTag_shape s blk n t i c hh).atomic_of (fun ⟨hG, hfa⟩ => .of_ok (thenArrayLink_ok ?_)) e h
  -- the multi tag has been made: the second lookup of the array, by its id in the extended store, cannot fail
  obtain ⟨huuid, hnm, hlt⟩ := hph hh rfl
  have hext : Extends s (named (mk2 s blk "multi_tags" n) i t n c) := (Extends.mk2 s blk _ n hb).named_new _ _ _ _ (mk2_new hb hG)
  have hid := looksLikeUUID_nonempty huuid
  -- the front end found the array by name and id: what it found carries the id
  obtain ⟨a, hfa⟩ := Option.ne_none_iff_exists'.mp hfa
  obtain ⟨p, n', hp, hm, _, hida⟩ := blkFind_some (show blkFind s blk "A" (nameOf s hh.obj) (idOf s hh.obj) = some a from hfa)
  have hidEq : idOf (named (mk2 s blk "multi_tags" n) i t n c) hh.obj = idOf s hh.obj := by unfold idOf; rw [hext.attrs hh.obj _ hlt]
  rw [hidEq, blkFindKey_uuid huuid, ← Option.isSome_iff_ne_none]
  exact blkFind_id_after_extend hext hb hp hid (hgroups p hp) hm (.inr (hida hnm hid))

/-- C08 for createFeature: refused ⇒ nothing happened.  The data handle denotes an object with a well-formed id, the arrays
    container of the block holds groups only, and the id of the new feature is fresh (not the name of a feature of the tag). -/
theorem createFeature_rejected (s : Store) (tag blk : ObjId) (i c lt : String) (dh : Option Handle)
    (hb : blk < s.objs.length) (ht : tag < s.objs.length)
    (hgroups : ∀ p, s.optGroup blk (blockContainer "A") = some p → ∀ l ∈ s.linksOf p, s.isGroupObj l.2 = true)
    (hdh : ∀ h, dh = some h → looksLikeUUID (idOf s h.obj) = true)
    (hfresh : ∀ x, s.optGroup tag "features" = some x → s.hasGroup x i = false) : Atomic s (createFeature s tag blk i c lt dh) := by
  intro e h
  cases dh with
  | none => rfl
  | some hh =>
  refine (createFeature_shape s tag blk i c lt hh).atomic_of (fun hfk => .of_ok (thenArrayLink_ok ?_)) e h
  -- the feature group has been made and initialised: that store extends `s`, so the second lookup by the id cannot fail
  have huuid := hdh hh rfl
  have hnew := mk2_new ht hfresh
  have h3 := (((Extends.mk2 s tag "features" i ht).setAttr_new _ "entity_id" i hnew).setAttr_new _ "created_at" c hnew).setAttr_new _
    "link_type" lt hnew
  rw [blkFindKey_uuid huuid, ← Option.isSome_iff_ne_none] at hfk ⊢
  exact blkFind_id_transport h3 blk "A" _ hb (looksLikeUUID_nonempty huuid) hgroups hfk

/-- the provisos under which createMultiTag and createFeature are covered (see the head of the file) -/
def Op.wf (s : Store) : Op → Prop
  | .createMultiTag b _ _ _ _ ph => b < s.objs.length ∧
      (∀ p, s.optGroup b (blockContainer "A") = some p → ∀ l ∈ s.linksOf p, s.isGroupObj l.2 = true) ∧
      (∀ h, ph = some h → looksLikeUUID (idOf s h.obj) = true ∧ (nameOf s h.obj).isEmpty = false ∧ h.obj < s.objs.length)
  | .createFeature tag b i _ _ dh => b < s.objs.length ∧ tag < s.objs.length ∧
      (∀ p, s.optGroup b (blockContainer "A") = some p → ∀ l ∈ s.linksOf p, s.isGroupObj l.2 = true) ∧
      (∀ h, dh = some h → looksLikeUUID (idOf s h.obj) = true) ∧
      (∀ x, s.optGroup tag "features" = some x → s.hasGroup x i = false)
  | _ => True

/-- C08 for EVERY entry point of the store model: a call that answers with an exception leaves the store as it was, or as it
    was plus one empty container group (the three `add…` entry points) that no getter can tell from its absence -/
theorem rejected_no_trace (s : Store) (op : Op) (e : Err) (hwf : op.wf s) (h : (op.apply s).2 = .error e) :
    NoTrace s (op.apply s).1 := by
  cases op with
  | createMultiTag b n t i c ph => exact .of_rejected (createMultiTag_rejected s b n t i c ph hwf.1 hwf.2.1 hwf.2.2) h
  | createFeature tg b i c lt dh =>
    exact .of_rejected (createFeature_rejected s tg b i c lt dh hwf.1 hwf.2.1 hwf.2.2.1 hwf.2.2.2.1 hwf.2.2.2.2) h
  | _ => exact rejected_no_trace_partial s _ e (by intros; simp) (by intros; simp) h

end Nix.St
