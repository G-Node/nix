import NixModel.Gen.Enums
/-
  C13 / C02 / C05 — "each reads back the kind it was given": the kind of a dimension descriptor, the link type of a feature and the
  element type of a column are STORED AS STRINGS and turned back into enumerators when the entity is opened.  `gen/extract_enums.py`
  reads both directions of each conversion off the source on every run; here: the two directions are inverse to each other, for every
  enumerator.  (A string changed in one direction only — "sample" written, "sampled" expected — makes every stored descriptor of that
  kind unreadable, or readable as another kind.)
-/
namespace Nix.Enums
open Nix.Gen.Enums

/-- an if-chain `if (str == a) return A; else if …`: the first entry whose string matches -/
def fromChain (t : List (String × String)) (s : String) : Option String := (t.find? fun p => p.1 == s).map (·.2)
/-- a switch: the entry of the enumerator -/
def toSwitch (t : List (String × String)) (e : String) : Option String := (t.find? fun p => p.1 == e).map (·.2)

/-- **the kind of a dimension descriptor survives being stored**: every enumerator the writing direction knows comes back from the
    string it is written as -/
theorem dimension_type_roundtrip : ∀ p ∈ dimTo, fromChain dimFrom p.2 = some p.1 := by decide +kernel
/-- … and every string the reading direction accepts is one the writing direction produces for that enumerator -/
theorem dimension_type_strings_agree : ∀ p ∈ dimFrom, toSwitch dimTo p.2 = some p.1 := by decide +kernel
theorem dimension_type_complete : dimTo.length = 4 ∧ dimFrom.length = 4 := by decide +kernel

/-- the writing direction of a link type indexes a vector of names with the enumerator's value (its position in the declaration) -/
def linkTo (e : String) : Option String := (linkEnum.idxOf? e).bind fun i => linkToNames[i]?
/-- **the link type of a feature survives being stored** -/
theorem link_type_roundtrip : ∀ e ∈ linkEnum, (linkTo e).bind (fromChain linkFrom) = some e := by decide +kernel
theorem link_type_strings_agree : ∀ p ∈ linkFrom, linkTo p.2 = some p.1 := by decide +kernel
/-- the vector has an entry for every enumerator (indexing it with the last one stays inside) -/
theorem link_type_vector_covers_the_enum : linkToNames.length = linkEnum.length := by decide +kernel

/-- the reading direction of an element type lower-cases the string first -/
def dtypeFrom (s : String) : Option String := fromChain dtypeFromLower s.toLower
/-- **an element type survives being written as a string** (the column types of a data frame's `toString`, type names in messages) -/
theorem data_type_roundtrip : ∀ p ∈ dtypeTo, dtypeFrom p.2 = some p.1 := by decide +kernel
/-- the written names are pairwise distinct — no two element types print alike -/
theorem data_type_names_distinct : ∀ p ∈ dtypeTo, ∀ q ∈ dtypeTo, p.2 = q.2 → p.1 = q.1 := by decide +kernel

/-- the tokens the models use for the kinds are the backend's strings (`Drive/Region.lean` link types; the dimension model names
    kinds by constructor, the harness prints `sampled / range / set / frame / alias` from the C++ enumerator, not from the string) -/
theorem model_link_type_tokens : linkToNames = ["tagged", "untagged", "indexed"] := by decide +kernel

end Nix.Enums
