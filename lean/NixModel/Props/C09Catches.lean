import NixModel.Gen.Catches
/-
  C09 / C08 — the entry points of the library are catch-free programs over HDF5 calls: an HDF5 call that fails (a write on a file
  opened read-only, a refused conversion, …) surfaces as an exception of the entry point.

  The models of C09 (a mutator on a read-only file throws) and C08 (a refused call leaves no trace) treat every entry point that
  way.  This file establishes it on every run: `gen/extract_catches.py` lists every exception handler of the library sources
  (NixModel/Gen/Catches.lean) with whether its last statement is a `throw`.  The handlers that let control leave normally are
  exactly the wrappers of the validator's conditions (a getter that throws counts as a failed condition — C19 models that,
  `Got.threw`) and one has-query that answers `false` for a handle whose id cannot be read; no handler in an entry point that
  creates, modifies, links or deletes anything swallows an exception.
-/
namespace Nix.Catches
open Nix.Gen.Catches

-- a row of `sites`: (file, ordinal within the file, what is caught, whether the handler ends in a `throw`)

def maySwallow (file : String) : Bool :=
  file == "include/nix/valid/conditions.hpp" || file == "include/nix/base/EntityWithSources.hpp"

/-- **no_handler_swallows** — every exception handler outside the validator's condition wrappers and the `hasSource(Source)` query
    ends in a `throw` -/
theorem no_handler_swallows : ∀ s ∈ sites, s.2.2.2 = true ∨ maySwallow s.1 = true := by decide +kernel

/-- … and there is exactly one handler in EntityWithSources.hpp (the has-query): a second one there would need to be read -/
theorem one_query_handler : (sites.filter fun s => s.1 == "include/nix/base/EntityWithSources.hpp").length = 1 := by decide +kernel

end Nix.Catches
