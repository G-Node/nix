import NixModel.SizeVec
/-
  C16 — the bounds-checked layer under the data access: size vectors and the NDArray buffer (NixModel/SizeVec.lean).
  What the model accepts lies inside the storage; what it divides by is not zero; a position the position test accepts lies
  inside the data.  (The tie replays every `ab_*` call of checks/abuse_api.py on this model, on the sanitizer build.)
-/
namespace Nix.SizeVec

/-- an accepted flat element access lies in the storage: with elements of `size` bytes, the bytes [i*size, (i+1)*size) are
    within the `nelms * size` bytes the array allocated (false of the pinned tree, which accepted every index: D35) -/
theorem flat_access_in_bounds (shape : List Nat) (i j : Nat) (h : flatAccess shape i = .num j) :
    j = i ∧ ∀ size, (i + 1) * size ≤ nelms shape * size := by
  unfold flatAccess at h
  split at h
  · rename_i hlt
    refine ⟨by injection h with h; exact h.symm, fun size => Nat.mul_le_mul_right size hlt⟩
  · cases h

set_option linter.unusedVariables false in
/-- the same for an access with ANY element type T (`tsize` bytes) on storage made for elements of `esize` bytes: an accepted
    access touches bytes inside the allocated `nelms * esize` — also when T is wider than the stored type and the storage size is no
    multiple of it (the division rounds DOWN; a check written as `index * sizeof(T) >= size` would let the last partial slot through) -/
theorem typed_access_in_bounds (shape : List Nat) (esize tsize i j : Nat) (ht : 0 < tsize)
    (h : flatAccessAs shape esize tsize i = .num j) : j = i ∧ (i + 1) * tsize ≤ nelms shape * esize := by
  unfold flatAccessAs at h
  split at h
  · rename_i hlt
    exact ⟨by injection h with h; exact h.symm, Nat.mul_le_of_le_div tsize (i + 1) _ hlt⟩
  · cases h

theorem typed_access_refused (shape : List Nat) (esize tsize i : Nat) (h : nelms shape * esize < (i + 1) * tsize) :
    flatAccessAs shape esize tsize i = .err "OutOfBounds" := by
  unfold flatAccessAs
  have : ¬ i < nelms shape * esize / tsize := fun hlt => Nat.not_le.2 h (Nat.mul_le_of_le_div tsize (i + 1) _ hlt)
  simp [this]

theorem flat_access_refused (shape : List Nat) (i : Nat) (h : nelms shape ≤ i) : flatAccess shape i = .err "OutOfBounds" := by
  unfold flatAccess; simp [Nat.not_lt.mpr h]

theorem sub_access_in_bounds (shape sub : List Nat) (j : Nat) (h : subAccess shape sub = .num j) :
    shape.length = sub.length ∧ j < nelms shape := by
  unfold subAccess at h
  split at h
  · cases h
  · rename_i hl
    obtain ⟨rfl, hs⟩ := flat_access_in_bounds shape _ j h
    exact ⟨by simpa using hl, by have := hs 1; omega⟩

/-- `operator[]` answers only for an index below the rank — for EVERY index, also SIZE_MAX (false of the pinned tree: D37) -/
theorem idx_in_bounds (a : List Nat) (i v : Nat) (h : idx a i = .num v) : i < a.length ∧ a[i]? = some v := by
  unfold idx at h
  cases hg : a[i]? with
  | none => simp [hg] at h
  | some w =>
    simp [hg] at h
    subst h
    exact ⟨(List.getElem?_eq_some_iff.mp hg).1, rfl⟩

theorem idx_refused (a : List Nat) (i : Nat) (h : a.length ≤ i) : idx a i = .err "StdOutOfRange" := by
  unfold idx; simp [List.getElem?_eq_none h]

/-- a division that is carried out has no zero divisor (false of the pinned tree: D36) -/
theorem div_divisors_nonzero (a b r : List Nat) (h : divv a b = .vec r) : a.length = b.length ∧ ∀ y ∈ b, y ≠ 0 := by
  unfold divv at h
  split at h
  · cases h
  · rename_i hl
    split at h
    · cases h
    · rename_i hz
      refine ⟨by simpa using hl, ?_⟩
      intro y hy h0
      apply hz
      simp only [List.any_eq_true]
      exact ⟨y, hy, by simp [h0]⟩

theorem allRel_cons (r : Nat → Nat → Bool) (x y : Nat) (xs ys : List Nat) :
    allRel r (x :: xs) (y :: ys) = (r x y && allRel r xs ys) := by
  simp [allRel]

/-- the position test: when it accepts, every coordinate is below the extent of its dimension -/
theorem positionInData_sound (shape pos : List Nat) (h : positionInData shape pos = true) :
    shape.length = pos.length ∧ ∀ (i p s : Nat), pos[i]? = some p → shape[i]? = some s → p < s := by
  simp only [positionInData, allRel, Bool.and_eq_true, beq_iff_eq, List.all_eq_true] at h
  refine ⟨h.1, fun i p s hp hs => ?_⟩
  obtain ⟨hi, rfl⟩ := List.getElem?_eq_some_iff.1 hp
  obtain ⟨hj, rfl⟩ := List.getElem?_eq_some_iff.1 hs
  -- entry `i` of the zipped tests is the test of dimension `i`
  simpa using h.2 _ (List.mem_iff_getElem.2 ⟨i, by rw [List.length_zipWith]; omega, List.getElem_zipWith ..⟩)

example : flatAccess [2, 3] 5 = .num 5 ∧ flatAccess [2, 3] 6 = .err "OutOfBounds" ∧ flatAccess [0] 0 = .err "OutOfBounds" ∧
    subAccess [2, 3] [1, 2] = .num 5 ∧ subAccess [2, 3] [1] = .err "StdOutOfRange" ∧
    idx [5, 0] 18446744073709551615 = .err "StdOutOfRange" ∧ divv [2, 5] [0, 3] = .err "StdInvalidArgument" ∧
    divv [6, 9] [2, 3] = .vec [3, 3] ∧ positionAndExtentInData [5, 3] [0, 1] [5, 2] = .bool true ∧
    positionAndExtentInData [5, 3] [0, 1] [5, 3] = .bool false ∧ positionAndExtentInData [5, 3] [0, 0] [0, 0] = .bool false := by
  decide +kernel

end Nix.SizeVec
