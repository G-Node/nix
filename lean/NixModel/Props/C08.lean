import NixModel.Proofs.OpShapes
/-
  C08 — a rejected operation leaves no trace.

  For the store model (NixModel/Store.lean, Entities.lean, Step.lean): whenever an entry point answers with an exception the
  store is EXACTLY the store before the call (`Atomic`) — with one explicit exception that the C++ really has: the three `add…` entry points
  (tag references, entity sources, group members) open their container group with create = true BEFORE they look the target up,
  so a refused `add` can leave a new, empty container group behind; no getter can tell such a store from the old one
  (`emptyContainer_unobservable`: count 0, enumeration empty, every index absent, before and after).
  Each `…_rejected` is read off the shape of its entry point (Proofs/OpShapes.lean): a refusal with the old store, or what is
  written out on the right, which is not a refusal (`Shape.atomic`) or refuses before it writes (`relink`, `linkById`).
-/
namespace Nix.St
open Store

def Atomic {α : Type} (s : Store) (r : Res α) : Prop := ∀ e, r.2 = .error e → r.1 = s

theorem Shape.atomic_of {α : Type} {s : Store} {G : Prop} {y r : Res α} (h : Shape s G y r) (hy : G → Atomic s y) : Atomic s r := by
  intro e he
  rcases h with ⟨_, h⟩ | ⟨hG, h⟩ <;> rw [h] at he ⊢
  exact hy hG e he

theorem Atomic.of_ok {α : Type} {s : Store} {y : Res α} (hy : ∀ e, y.2 ≠ .error e) : Atomic s y := fun e he => absurd he (hy e)

theorem Shape.atomic {α : Type} {s s1 : Store} {G : Prop} {a : α} {r : Res α} (h : Shape s G (s1, .ok a) r) : Atomic s r :=
  h.atomic_of fun _ => .of_ok fun _ => nofun

theorem createBlock_rejected (s : Store) (n t i c : String) : Atomic s (createBlock s n t i c) := (createBlock_shape s n t i c).atomic

theorem createSectionIn_rejected (s : Store) (p : Option ObjId) (n t i c : String) : Atomic s (createSectionIn s p n t i c) := by
  cases p with
  | none => exact (createSectionIn_none_shape s n t i c).atomic
  | some p => exact (createSectionIn_some_shape s p n t i c).atomic

theorem createSourceIn_rejected (s : Store) (p : ObjId) (n t i c : String) : Atomic s (createSourceIn s p n t i c) :=
  (createSourceIn_shape s p n t i c).atomic

theorem createInBlock_rejected (s : Store) (b : ObjId) (k n t i c : String) : Atomic s (createInBlock s b k n t i c) :=
  (createInBlock_shape s b k n t i c).atomic

theorem createDataArray_rejected (s : Store) (b : ObjId) (n t i c dt sh : String) : Atomic s (createDataArray s b n t i c dt sh) :=
  (createDataArray_shape s b n t i c dt sh).atomic

theorem createTag_rejected (s : Store) (b : ObjId) (n t i c pos : String) : Atomic s (createTag s b n t i c pos) :=
  (createTag_shape s b n t i c pos).atomic

theorem createGroup_rejected (s : Store) (b : ObjId) (n t i c : String) : Atomic s (createGroup s b n t i c) :=
  createInBlock_rejected s b "G" n t i c

theorem createSource_rejected (s : Store) (b : ObjId) (n t i c : String) : Atomic s (createSource s b n t i c) :=
  createInBlock_rejected s b "O" n t i c

theorem createDataFrame_rejected (s : Store) (b : ObjId) (n t i c : String) (ns ts : List String) (cols : String) :
    Atomic s (createDataFrame s b n t i c ns ts cols) :=
  (createDataFrame_shape s b n t i c ns ts cols).atomic

theorem createProperty_rejected (s : Store) (sec : ObjId) (n i c dt : String) : Atomic s (createProperty s sec n i c dt) :=
  (createProperty_shape s sec n i c dt).atomic

theorem relink_rejected (s : Store) (o : ObjId) (f : String) (target : Option ObjId) : Atomic s (relink s o f target) := by
  intro e h
  cases target with
  | none => rfl
  | some a => cases h

theorem setSectionLink_rejected (s : Store) (o : ObjId) (f id : String) : Atomic s (setSectionLink s o f id) :=
  (setSectionLink_shape s o f id).atomic_of fun _ => relink_rejected _ _ _ _

theorem setArrayLink_rejected (s : Store) (o b : ObjId) (f k : String) : Atomic s (setArrayLink s o b f k) :=
  setArrayLink_eq s o b f k ▸ relink_rejected _ _ _ _

theorem setExtents_rejected (s : Store) (m b : ObjId) (k : String) : Atomic s (setExtents s m b k) :=
  (setExtents_shape s m b k).atomic_of fun _ => relink_rejected _ _ _ _

theorem setNonEmpty_rejected (s : Store) (o : ObjId) (k v : String) : Atomic s (setNonEmpty s o k v) := by
  intro e h
  unfold setNonEmpty at *
  split at h
  · rw [if_pos ‹_›]
  · cases h

theorem linkById_rejected (s : Store) (c : ObjId) (nm : ObjId → String) (target : Option ObjId) : Atomic s (linkById s c nm target) := by
  intro e h
  cases target with
  | none => rfl
  | some a =>
    unfold linkById at h ⊢; dsimp only at h ⊢
    split at h
    · rw [if_pos ‹_›]
    · cases h

theorem addReference_rejected (s : Store) (t b : ObjId) (k : String) :
    Atomic (s.openGroupCreate t "references").1 (addReference s t b k) :=
  addReference_eq s t b k ▸ linkById_rejected _ _ _ _

theorem addSource_rejected (s : Store) (o b : ObjId) (id : String) (e : Err)
    (h : (addSource s o b id).2 = .error e) : (addSource s o b id).1 = s ∨ (addSource s o b id).1 = (s.openGroupCreate o "sources").1 := by
  rw [addSource_eq] at h ⊢
  split at h
  · rw [if_pos ‹_›]; exact .inl rfl
  · rw [if_neg ‹_›]; exact .inr (linkById_rejected _ _ _ _ e h)

theorem addMember_rejected (s : Store) (g b : ObjId) (k n i : String) :
    Atomic (s.openGroupCreate g (groupContainer k)).1 (addMember s g b k n i) :=
  addMember_eq s g b k n i ▸ linkById_rejected _ _ _ _

/-- no getter tells a store with a new, empty container from the store without it -/
theorem emptyContainer_unobservable (s : Store) (g : ObjId) (n : String) (h : s.hasGroup g n = false)
    (hc : s.child? g n = none) (hn : n.isEmpty = false) (hg : g < s.objs.length) :
    let s' := (s.openGroupCreate g n).1
    countIn s' (s'.optGroup g n) = countIn s (s.optGroup g n) ∧
    linkedIds s' (s'.optGroup g n) = linkedIds s (s.optGroup g n) ∧
    ∀ i, nthChild s' (s'.optGroup g n) i = nthChild s (s.optGroup g n) i := by
  intro s'
  -- before: no container; after: the new group, which links nothing
  obtain ⟨_, hl, hgrp, _, hgob⟩ := openGroupCreate_fresh s g n h hg
  obtain ⟨ob, hob⟩ := Option.isSome_iff_exists.mp (obj?_isSome_iff.mpr hg)
  have hopt : s'.optGroup g n = some (s.openGroupCreate g n).2 := by
    refine optGroup_some.mpr ⟨hn, ?_, hgrp⟩
    rw [child?, linksOf_eq, hob] at hc
    rw [child?, linksOf_eq, hgob ob hob, lookup_append_new _ hc, if_pos rfl]
  simp only [hopt, optGroup_eq_none.mpr h, countIn, linkedIds, nthChild, objectCount]
  simp [s', hl]

/-- what a refused call may leave behind: nothing, or one container group opened with create = true.  `g` and `n` are not tied to
    the call here; that such a group is empty, and invisible to every getter of the container, is `emptyContainer_unobservable` -/
inductive NoTrace (s : Store) : Store → Prop
  | same : NoTrace s s
  | container (g : ObjId) (n : String) : NoTrace s (s.openGroupCreate g n).1

theorem unitRes_error {α : Type} {r : Res α} {e : Err} (h : (unitRes r).2 = .error e) : r.2 = .error e := by
  obtain ⟨s, x⟩ := r
  cases x <;> simp_all [unitRes]

theorem NoTrace.of_eq {s s' : Store} (h : s' = s) : NoTrace s s' := h ▸ .same

theorem NoTrace.of_rejected {α : Type} {s : Store} {r : Res α} (hrej : Atomic s r) {e : Err}
    (h : (unitRes r).2 = .error e) : NoTrace s (unitRes r).1 :=
  .of_eq ((unitRes_fst r).trans (hrej e (unitRes_error h)))

/-- C08 for every entry point of the store model except createMultiTag / createFeature (see `createMultiTag_rejected`,
    `createFeature_rejected` for those two, which need the id of the array handle to be a well-formed id) -/
theorem rejected_no_trace_partial (s : Store) (op : Op) (e : Err)
    (h1 : ∀ b n t i c ph, op ≠ .createMultiTag b n t i c ph) (h2 : ∀ tg b i c lt dh, op ≠ .createFeature tg b i c lt dh)
    (h : (op.apply s).2 = .error e) : NoTrace s (op.apply s).1 := by
  cases op with
  | createBlock n t i c => exact .of_rejected (createBlock_rejected s n t i c) h
  | createSection p n t i c => exact .of_rejected (createSectionIn_rejected s p n t i c) h
  | createSubSource p n t i c => exact .of_rejected (createSourceIn_rejected s p n t i c) h
  | createGroup b n t i c => exact .of_rejected (createGroup_rejected s b n t i c) h
  | createSource b n t i c => exact .of_rejected (createSource_rejected s b n t i c) h
  | createDataArray b n t i c dt sh => exact .of_rejected (createDataArray_rejected s b n t i c dt sh) h
  | createDataFrame b n t i c ns ts cols => exact .of_rejected (createDataFrame_rejected s b n t i c ns ts cols) h
  | createTag b n t i c pos => exact .of_rejected (createTag_rejected s b n t i c pos) h
  | createMultiTag b n t i c ph => exact absurd rfl (h1 b n t i c ph)
  | createProperty sec n i c dt => exact .of_rejected (createProperty_rejected s sec n i c dt) h
  | createFeature tg b i c lt dh => exact absurd rfl (h2 tg b i c lt dh)
  | setSectionLink o f id => exact .of_eq (setSectionLink_rejected s o f id e h)
  | setArrayLink o b f k => exact .of_eq (setArrayLink_rejected s o b f k e h)
  | setExtents m b k => exact .of_eq (setExtents_rejected s m b k e h)
  | setNonEmpty o k v => exact .of_eq (setNonEmpty_rejected s o k v e h)
  | addReference t b k => exact addReference_rejected s t b k e h ▸ .container _ _
  | addSource o b id => exact (addSource_rejected s o b id e h).elim .of_eq fun h' => h' ▸ .container _ _
  | addMember g b k n i => exact addMember_rejected s g b k n i e h ▸ .container _ _
  -- the other entry points never answer with an exception
  | unsetLink _ _ | unsetAttr _ _ | setAttr _ _ _ | deleteBlock _ | deleteSection _ _ | deleteSubSource _ _ | deleteBlockSource _ _
  | removeEntity _ _ _ _ | deleteProperty _ _ | removeReference _ _ _ | removeSource _ _ | removeMember _ _ _ _ => cases h

/-- non-vacuity: a duplicate block name is refused, and the store is the store before the call -/
example :
    let s := (createBlock (newFile "f" "0" "xnix" "[1,2,0]") "b" "xt" "id1" "1").1
    (createBlock s "b" "xt" "id2" "2").2 = .error .duplicateName ∧ (createBlock s "b" "xt" "id2" "2").1 = s := by decide +kernel

end Nix.St
