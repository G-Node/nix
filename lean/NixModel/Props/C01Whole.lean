import NixModel.Props.C01
/-
  C01 / C08 — the whole-array write that also sets the extent (`DataSet::setData(const T&)`), as repaired by fix 17a5091.

  * accepted: afterwards the array has the new shape and reads back exactly the values handed in (`setWhole_reads_back`);
  * refused (the element classes do not convert): the array is as it was, shape and every element (`setWhole_refused_no_trace`) —
    which needs the array to be normalised (zero outside its extent), as every array a history produces is (`applyOp_normal`);
  * the order of the pinned tree (extent first, write afterwards) does leave a trace: a kernel-checked witness (D40);
  * a refused `DataArray::appendData` (`appendChecked`, fix 80dff08) takes its enlargement back likewise (`append_refused_no_trace`).
-/
namespace Nix.C01
open Nix

variable {V : Type}

theorem maxIdx_length (a b : Idx) (h : a.length = b.length) : (maxIdx a b).length = b.length := by
  simp [maxIdx, List.length_zipWith, h]

theorem inShape_mono (s t idx : Idx) (hl : s.length = t.length) (hle : ∀ i (h1 : i < s.length) (h2 : i < t.length), s[i] ≤ t[i])
    (h : inShape s idx = true) : inShape t idx = true := by
  obtain ⟨h1, hs⟩ := (inShape_iff ..).1 h
  refine (inShape_iff ..).2 ⟨by omega, fun i h0 h2 => ?_⟩
  have := hs i (by omega) h2
  have := hle i (by omega) h0
  omega

theorem inShape_zipWith (f : Nat → Nat → Nat) (hf : ∀ x y, x ≤ f x y ∧ y ≤ f x y) (s t idx : Idx) (hl : s.length = t.length)
    (h : inShape s idx = true ∨ inShape t idx = true) : inShape (List.zipWith f s t) idx = true :=
  h.elim (inShape_mono _ _ idx (by simp [hl]) fun i _ _ => by rw [List.getElem_zipWith]; exact (hf ..).1)
    (inShape_mono _ _ idx (by simp [hl]) fun i _ _ => by rw [List.getElem_zipWith]; exact (hf ..).2)

/-- growing an array and cutting it back to its old extent gives the array back: nothing is lost, nothing appears (for a normalised
    array; `big` covers the old extent) -/
theorem setExtent_grow_back (a b c : NDArray V) (hn : Normal a) (big : Idx) (hcover : ∀ idx, inShape a.shape idx = true → inShape big idx = true)
    (hb : a.setExtent big = .ok b) (hc : b.setExtent a.shape = .ok c) : c.shape = a.shape ∧ ∀ idx, c.get idx = a.get idx := by
  have hbs := (get_setExtent a b _ hb []).1
  refine ⟨(get_setExtent b c _ hc []).1, fun idx => ?_⟩
  rw [(get_setExtent b c _ hc idx).2.2, hbs, (get_setExtent a b _ hb idx).2.2, (get_setExtent a b _ hb idx).2.1]
  cases hin : inShape a.shape idx with
  | true => simp [hcover idx hin]
  | false => simp [hn idx hin]

theorem refused_guard (a : NDArray V) {c : Prop} [Decidable c] {e : Except Err Unit} {r : NDArray V × Except Err Unit}
    (h : ¬ c → r.1.shape = a.shape ∧ ∀ idx, r.1.get idx = a.get idx) :
    (if c then (a, e) else r).1.shape = a.shape ∧ ∀ idx, (if c then (a, e) else r).1.get idx = a.get idx := by
  split
  · exact ⟨rfl, fun _ => rfl⟩
  · exact h ‹_›

/-- **setWhole_refused_no_trace** — a whole-array write that is refused leaves the array exactly as it was: the same extent, and
    every element reads as before (C08's clause "nothing is … resized"; false of the pinned tree, D40) -/
theorem setWhole_refused_no_trace (a : NDArray V) (hn : Normal a) (shape : Idx) (vals : List V) :
    ((a.setWhole shape vals false).1).shape = a.shape ∧ ∀ idx, ((a.setWhole shape vals false).1).get idx = a.get idx := by
  refine refused_guard a fun hl => ?_
  have hl : shape.length = a.shape.length := by simpa using hl
  have hb := setExtent_eq a (maxIdx shape a.shape) (maxIdx_length _ _ hl)
  have hc := setExtent_eq (resized a (maxIdx shape a.shape)) a.shape (maxIdx_length _ _ hl).symm
  simp only [hb, Bool.not_false, if_true, hc]
  exact setExtent_grow_back a _ _ hn _ (fun idx hin => inShape_zipWith max (fun _ _ => by omega) shape a.shape idx hl (.inr hin)) hb hc

/-- **append_refused_no_trace** — an append whose data HDF5 refuses (numbers appended to a string array …) leaves the array exactly as
    it was: the enlargement along the axis is taken back (false of the pinned tree, D41); so does an append refused by the front
    end (axis, rank, shape) -/
theorem append_refused_no_trace (a : NDArray V) (hn : Normal a) (cnt : Idx) (axis : Nat) (vals : List V) :
    ((a.appendChecked cnt axis vals false).1).shape = a.shape ∧ ∀ idx, ((a.appendChecked cnt axis vals false).1).get idx = a.get idx := by
  refine refused_guard a fun _ => refused_guard a fun _ => refused_guard a fun _ => ?_
  generalize hδ : ((List.range a.shape.length).map fun i => if i == axis then (cnt[i]?).getD 0 else 0) = δ
  have hlen : δ.length = a.shape.length := by simp [← hδ]
  have hel : (addIdx a.shape δ).length = a.shape.length := by simp [addIdx, List.length_zipWith, hlen]
  have hb := setExtent_eq a _ hel
  have hc := setExtent_eq (resized a (addIdx a.shape δ)) a.shape hel.symm
  simp only [hb, Bool.false_eq_true, if_false, hc]
  exact setExtent_grow_back a _ _ hn _ (fun idx hin => inShape_zipWith (· + ·) (fun _ _ => by omega) _ _ idx hlen.symm (.inl hin)) hb hc

theorem boxWithin_zeros_max (s t : Idx) (hl : s.length = t.length) : boxWithin (maxIdx s t) (zeros s.length) s = true :=
  (boxWithin_iff ..).2 ⟨by simp [zeros, maxIdx, hl], by simp [maxIdx, hl], fun i _ _ _ => by
    simp only [zeros, maxIdx, List.getElem_replicate, List.getElem_zipWith]; omega⟩

theorem subIdx_zeros (s idx : Idx) (h : inShape s idx = true) : subIdx idx (zeros s.length) = idx :=
  List.ext_getElem (by simp [subIdx, zeros, ((inShape_iff ..).1 h).1]) fun i _ _ => by simp [subIdx, zeros]

/-- **setWhole_reads_back** — an accepted whole-array write gives the array the new extent, whatever the old one was, and every
    element inside it reads as the value handed in at its row-major position (C01: "written as a whole … a later read returns
    exactly those values") -/
theorem setWhole_reads_back (a : NDArray V) (shape : Idx) (vals : List V) (hne : shape ≠ []) (hl : shape.length = a.shape.length) :
    (a.setWhole shape vals true).2 = .ok () ∧ ((a.setWhole shape vals true).1).shape = shape ∧
    ∀ idx, inShape shape idx = true →
      ((a.setWhole shape vals true).1).get idx = (match vals[linear shape idx]? with | some v => v | none => a.zero) := by
  have hz : zeros shape.length ≠ [] := by
    cases shape with
    | nil => exact absurd rfl hne
    | cons x xs => simp [zeros, List.replicate_succ]
  have hbox : (resized a (maxIdx shape a.shape)).boxOk (zeros shape.length) shape = true := boxWithin_zeros_max shape a.shape hl
  unfold NDArray.setWhole
  rw [if_neg (by simp [hl]), setExtent_eq a _ (maxIdx_length _ _ hl)]
  simp only [Bool.not_true, Bool.false_eq_true, if_false, write_eq _ shape _ vals hne hz hbox]
  rw [setExtent_eq _ shape (by simp [resized, maxIdx_length _ _ hl, hl])]
  refine ⟨rfl, rfl, fun idx hin => ?_⟩
  have hmax : inShape (maxIdx shape a.shape) idx = true := inShape_zipWith max (fun _ _ => by omega) _ _ idx hl (.inl hin)
  simp only [resized, hin, hmax, Bool.and_self, if_true, inBox_zeros, subIdx_zeros shape idx hin]
  rfl

/-- D40, kernel-checked: with the order of the pinned tree (extent first, write afterwards) a refused whole write of 1 element
    into an array of 2 leaves the extent [1] and the second element is gone — the repaired order leaves the array as it was -/
example :
    let a : NDArray Nat := { shape := [2], zero := 0, get := fun idx => if idx == [0] then 7 else if idx == [1] then 8 else 0 }
    ((a.setWholeNaive [1] [5] false).1.shape = [1]) ∧
    ((a.setWhole [1] [5] false).1.shape = [2] ∧ (a.setWhole [1] [5] false).1.get [1] = 8) := by
  decide

/-- non-vacuity of `setWhole_reads_back`: a shrinking and a growing accepted whole write -/
example :
    let a : NDArray Nat := { shape := [2], zero := 0, get := fun idx => if idx == [0] then 7 else if idx == [1] then 8 else 0 }
    (a.setWhole [3] [1, 2, 3] true).1.shape = [3] ∧ (a.setWhole [3] [1, 2, 3] true).1.get [2] = 3 ∧
    (a.setWhole [1] [9] true).1.shape = [1] ∧ (a.setWhole [1] [9] true).1.get [0] = 9 ∧ (a.setWhole [1] [9] true).1.get [1] = 0 := by
  decide

end Nix.C01
