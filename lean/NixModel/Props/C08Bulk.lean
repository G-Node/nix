import NixModel.Bulk
import NixModel.Props.C12Ids
import NixModel.Proofs.SysHistory
/-
  C08 / C12 for the bulk setters of the multi-valued links (`NixModel/Bulk.lean`): references / sources / group members replaced
  by a vector in one call.
-/
namespace Nix.St
open Nix Store

/-- **a refused vector leaves no trace** — when the look at the vector finds an uninitialised entity or one that is not in the
    block, the call answers with that exception and returns the store it was given: no old link has been dropped, no new one
    added (what D46, D47, D48 violated: the C++ unlinked first and looked later) -/
theorem setLinks_refused_vector_no_trace (s : Store) (rel : String) (h : Handle) (targets : List (Option Handle)) (e : Err)
    (hv : bulkValidate s rel h [] targets = .error e) : setLinks s rel h targets = (s, .error e) := by
  unfold setLinks; rw [hv]

theorem bulkValidate_uninitialised (s : Store) (rel : String) (h : Handle) :
    ∀ (ts : List (Option Handle)) (l : List ObjId), none ∈ ts → ∃ e, bulkValidate s rel h l ts = .error e
  | [], _, hm => by simp at hm
  | t :: ts, l, hm => by
    unfold bulkValidate
    cases hl : bulkLook s rel h l t with
    | error e => exact ⟨e, rfl⟩
    | ok l' =>
      simp only
      rcases List.mem_cons.1 hm with h0 | h1
      · subst h0; simp [bulkLook] at hl
      · exact bulkValidate_uninitialised s rel h ts l' h1

theorem bulkValidate_ok_all_initialised (s : Store) (rel : String) (h : Handle) (ts : List (Option Handle)) (objs : List ObjId)
    (hv : bulkValidate s rel h [] ts = .ok objs) : none ∉ ts := by
  intro hm
  obtain ⟨e, he⟩ := bulkValidate_uninitialised s rel h ts [] hm
  rw [he] at hv; cases hv

theorem setLinks_uninitialised_no_trace (s : Store) (rel : String) (h : Handle) (targets : List (Option Handle))
    (hm : none ∈ targets) : ∃ e, setLinks s rel h targets = (s, .error e) := by
  obtain ⟨e, he⟩ := bulkValidate_uninitialised s rel h targets [] hm
  exact ⟨e, setLinks_refused_vector_no_trace s rel h targets e he⟩

/-- the bulk setter is made of `removeGroup` on its container and the three single `add…`: what these keep, it keeps —
    accepted, refused at the vector, or failing half way -/
theorem setLinks_preserves (P : Store → Prop) (s : Store) (rel : String) (h : Handle) (targets : List (Option Handle)) (h0 : P s)
    (hrem : ∀ c, s.optGroup h.obj (bulkContainer rel) = some c → ∀ s' n, P s' → P (s'.removeGroup c n))
    (hadd : ∀ s', P s' → (∀ key, P (addReference s' h.obj h.blk key).1) ∧ (∀ id, P (addSource s' h.obj h.blk id).1) ∧
      ∀ k n i, P (addMember s' h.obj h.blk k n i).1) : P (setLinks s rel h targets).1 := by
  have hclear : ∀ c, (∀ s' n, P s' → P (s'.removeGroup c n)) → ∀ (ns : List String) (s' : Store), P s' → P (clearLinks c s' ns) := by
    intro c hc ns
    induction ns with
    | nil => exact fun _ hs => hs
    | cons n ns ih => exact fun s' hs => ih _ (hc s' n hs)
  have hadds : ∀ (os : List ObjId) (s' : Store), P s' → P (bulkAdd rel h s' os).1 := by
    intro os
    induction os with
    | nil => exact fun _ hs => hs
    | cons o os ih =>
      intro s' hs
      have h1 : P (bulkAddOne s' rel h o).1 := by
        unfold bulkAddOne
        split
        · exact (hadd s' hs).1 _
        · split
          · exact (hadd s' hs).2.1 _
          · exact (hadd s' hs).2.2 _ _ _
      unfold bulkAdd
      split <;> rename_i hr <;> rw [hr] at h1
      · exact ih _ h1
      · exact h1
  unfold setLinks
  split
  · exact h0
  · refine hadds _ _ ?_
    unfold bulkClear
    split
    · rename_i c hc; exact hclear c (hrem c hc) _ _ h0
    · exact h0

/-- **a bulk setter never touches an id** — accepted, refused at the vector, or failing half way -/
theorem setLinks_idsKept (s : Store) (rel : String) (h : Handle) (targets : List (Option Handle)) :
    IdsKept s (setLinks s rel h targets).1 :=
  Writes.idsKept_of_none <| setLinks_preserves (Writes noWrite s) s rel h targets (.refl s) (fun c _ s' n hs => hs.trans (.removeGroup s' c n))
    fun _ hs => ⟨fun _ => hs.trans (addReference_writes ..), fun _ => hs.trans (addSource_writes ..), fun _ _ _ => hs.trans (addMember_writes ..)⟩

theorem setLinks_sys (s : Store) (rel : String) (h : Handle) (targets : List (Option Handle)) (hs : Sys s)
    (hh : 3 ≤ h.obj) (hb : 3 ≤ h.blk) : Sys (setLinks s rel h targets).1 :=
  setLinks_preserves Sys s rel h targets hs
    (fun c hc _ n hs' => hs'.removeGroup c n (Nat.ne_zero_of_lt (hs.optGroup_low (Nat.ne_zero_of_lt hh) hc)))
    fun _ hs' => ⟨fun _ => addReference_sys hs' _ _ _ hh hb, fun _ => addSource_sys hs' _ _ _ hh hb, fun _ _ _ => addMember_sys hs' _ _ _ _ _ hh hb⟩

/-! non-vacuity: the hypothesis of `setLinks_refused_vector_no_trace` is met by every vector that holds an uninitialised entity
    (`bulkValidate_uninitialised`), in every store, for every relation; the accepting path is exercised against the library by the
    correspondence runs (op `setlinks`) -/
example (s : Store) (h a : Handle) : ∃ e, setLinks s "ref" h [some a, none] = (s, .error e) :=
  setLinks_uninitialised_no_trace s "ref" h [some a, none] (by simp)

end Nix.St
