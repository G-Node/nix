import NixModel.Props.C04
import NixModel.Props.C03
import NixModel.Props.C12Ids
import NixModel.Props.C08Full
/-
  C03, inductive part — "within one parent no two entities EVER share a name": the well-formedness of a container
  (`ContainerV`: names pairwise distinct and non-empty, children are groups of the store with pairwise distinct ids) is what
  creation establishes and what every delete preserves.  Proved here for the blocks container of the file:
  `createBlock_preserves_container` (given that the new id is not the id of an existing block — fresh ids, C12),
  `unlinkAll_preserves_container` (every delete entry point is an `unlinkAll`, C04), and by induction over arbitrary
  interleavings of block creations and deletions `blocks_container_invariant`.
-/
namespace Nix.St
open Store

theorem unlinkAll_preserves_container (s : Store) (D : List ObjId) (c : ObjId) (h : Container s c) : Container (s.unlinkAll D) c := by
  have sub := unlinkAll_sublist s D c
  have hattr : ∀ o k, (s.unlinkAll D).attr? o k = s.attr? o k := attr?_unlinkAll s D
  refine ⟨h.namesDistinct.sublist sub, fun l hm => h.namesNonEmpty l (sub.subset hm), fun l hm => ?_, ?_⟩
  · rw [isGroupObj_unlinkAll]; exact h.groups l (sub.subset hm)
  · simpa [hattr] using h.idsDistinct.sublist sub

structure ContainerV (s : Store) (c : ObjId) : Prop extends Container s c where
  valid : ∀ l ∈ s.linksOf c, l.2 < s.objs.length

theorem ContainerV.append {s s' : Store} {c : ObjId} (hc : ContainerV s c) (he : Extends s s') {n : String} {g : ObjId}
    (hl : s'.linksOf c = s.linksOf c ++ [(n, g)]) (hn : n.isEmpty = false) (hfree : s.child? c n = none)
    (hg : s'.isGroupObj g = true)
    (hid : ∀ l ∈ s.linksOf c, s.attr? l.2 "entity_id" ≠ s'.attr? g "entity_id") : ContainerV s' c := by
  have old : ∀ l ∈ s.linksOf c, s'.isGroupObj l.2 = true ∧ ∀ k, s'.attr? l.2 k = s.attr? l.2 k := fun l hm =>
    ⟨by rw [he.kind _ (hc.valid l hm)]; exact hc.groups l hm, fun k => he.attrs _ k (hc.valid l hm)⟩
  have mem : ∀ l ∈ s'.linksOf c, l ∈ s.linksOf c ∨ l = (n, g) := fun l hm => by
    rw [hl] at hm; simpa using hm
  refine ⟨⟨?_, fun l hm => (mem l hm).elim (hc.namesNonEmpty l) (· ▸ hn), fun l hm => (mem l hm).elim (fun h => (old l h).1) (· ▸ hg), ?_⟩,
    fun l hm => (mem l hm).elim (fun h => Nat.lt_of_lt_of_le (hc.valid l h) he.len) (· ▸ isGroupObj_lt hg)⟩
  · rw [hl, List.pairwise_append]
    exact ⟨hc.namesDistinct, List.pairwise_singleton _ _, fun a ha b hb => by
      rw [List.mem_singleton.mp hb]; exact lookup_none_iff.mp hfree a ha⟩
  · rw [hl, List.pairwise_append]
    refine ⟨hc.idsDistinct.imp_of_mem fun ha hb hab => by rw [(old _ ha).2, (old _ hb).2]; exact hab, List.pairwise_singleton _ _,
      fun a ha b hb => ?_⟩
    rw [List.mem_singleton.mp hb, (old a ha).2]; exact hid a ha

theorem createBlock_preserves_container (s : Store) (n t i c : String) (g : ObjId) (s' : Store)
    (h : createBlock s n t i c = (s', .ok g)) (hc : ContainerV s dataGrp) (hlt : dataGrp < s.objs.length)
    (hfresh : ∀ l ∈ s.linksOf dataGrp, s.attr? l.2 "entity_id" ≠ some i) : ContainerV s' dataGrp := by
  have happ := (createBlock_appends s n t i c g s' h).2 hlt
  obtain ⟨⟨hn, hnone⟩, he⟩ := (createBlock_shape s n t i c).of_ok h
  cases he
  obtain ⟨hnew, _, hg, _⟩ := openGroupCreate_fresh s dataGrp n (hasGroup_of_child_none hnone) hlt
  refine hc.append ((Extends.openGroupCreate s dataGrp n hlt).named_new i t n c (Nat.le_of_eq hnew.symm)) happ hn hnone ?_ fun l hl => ?_
  · simp only [named, isGroupObj_setAttr]; exact hg
  · simp only [named]
    rw [attr?_setAttr, if_neg (by simp), attr?_setAttr, if_neg (by simp), attr?_setAttr, if_neg (by simp), attr?_setAttr,
      if_pos ⟨rfl, rfl, obj?_isSome_iff.mpr (isGroupObj_lt hg)⟩]
    exact hfresh l hl

theorem unlinkAll_preserves_containerV (s : Store) (D : List ObjId) (c : ObjId) (h : ContainerV s c) : ContainerV (s.unlinkAll D) c :=
  ⟨unlinkAll_preserves_container s D c h.toContainer, fun l hl => by
    rw [length_unlinkAll]; exact h.valid l ((unlinkAll_sublist s D c).subset hl)⟩

/-- the two entry points that change the set of blocks -/
inductive BlockOp
  | create (name type id created : String)
  | delete (key : String)

def BlockOp.apply (s : Store) : BlockOp → Store
  | .create n t i c => (createBlock s n t i c).1
  | .delete k => (deleteBlock s k).1

def runBlocks (s : Store) (ops : List BlockOp) : Store := ops.foldl BlockOp.apply s

/-- the id handed to a creation is not the id of an existing block (ids are drawn fresh: C12) -/
def BlockOp.fresh (s : Store) : BlockOp → Prop
  | .create _ _ i _ => ∀ l ∈ s.linksOf dataGrp, s.attr? l.2 "entity_id" ≠ some i
  | .delete _ => True

theorem BlockOp.apply_preserves (s : Store) (op : BlockOp) (hc : ContainerV s dataGrp) (hlt : dataGrp < s.objs.length)
    (hf : op.fresh s) : ContainerV (op.apply s) dataGrp ∧ dataGrp < (op.apply s).objs.length := by
  cases op with
  | create n t i c =>
    -- `.1` of a footprint: the store has not lost an object
    refine ⟨?_, Nat.lt_of_lt_of_le hlt (createBlock_writes s n t i c).1⟩
    rcases createBlock_shape s n t i c with ⟨e, he⟩ | ⟨_, he⟩ <;> rw [BlockOp.apply, he]
    · exact hc
    · exact createBlock_preserves_container s n t i c _ _ he hc hlt hf
  | delete k =>
    obtain ⟨D, hD⟩ := (delete_only_unlinks s).1 k
    rw [BlockOp.apply, hD]
    exact ⟨unlinkAll_preserves_containerV s D dataGrp hc, by rw [length_unlinkAll]; exact hlt⟩

/-- C03, first clause, as an invariant: after ANY interleaving of block creations (successful or refused) and deletions
    (by name or id), the blocks of the file have pairwise distinct non-empty names and pairwise distinct ids — provided each
    new id was fresh when it was drawn -/
theorem blocks_container_invariant (ops : List BlockOp) (s : Store) (hc : ContainerV s dataGrp) (hlt : dataGrp < s.objs.length)
    (hfresh : ∀ (pre : List BlockOp) (op : BlockOp) (post : List BlockOp), ops = pre ++ op :: post → op.fresh (runBlocks s pre)) :
    ContainerV (runBlocks s ops) dataGrp := by
  induction ops generalizing s with
  | nil => exact hc
  | cons op rest ih =>
    have h0 : op.fresh s := hfresh [] op rest rfl
    obtain ⟨hc1, hlt1⟩ := BlockOp.apply_preserves s op hc hlt h0
    exact ih (op.apply s) hc1 hlt1 fun pre o post he => by
      simpa [runBlocks] using hfresh (op :: pre) o post (by rw [he]; rfl)

theorem newFile_blocks_container (id created format version : String) : ContainerV (newFile id created format version) dataGrp := by
  have hl : (newFile id created format version).linksOf dataGrp = [] := by rw [linksOf_newFile]; rfl
  refine { namesDistinct := ?_, namesNonEmpty := ?_, groups := ?_, idsDistinct := ?_, valid := ?_ } <;> simp [hl]

end Nix.St
