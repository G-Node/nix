import NixModel.Proofs.RolesHistory
/-
  C03, first clause — "names are unique per parent" — and the structure of every file nix can produce, for EVERY reachable state.

  `WT` (Proofs/Roles.lean) is the schema of a nix file as an invariant of the store model; `apply_wt` / `run_wt`
  (Proofs/RolesHistory.lean) show that every one of the 30 entry points keeps it when its object arguments have the role their
  C++ front-end type guarantees (`Op.kinded`: a `Block` wraps a block group, …).  Consequences, all without a hypothesis on the
  state:
    * `names_unique_per_parent` — in every object two different links never carry the same non-empty name: nix never asks HDF5
      for a link name that is taken (the model's `addLink` appends blindly, so a duplicate would show);
    * `lookup_by_name_finds_the_link` — looking a non-empty link name up yields exactly the child linked under it;
    * `children_are_groups` / `properties_are_datasets` — only `properties` containers hold data sets and they hold nothing else:
      the `openGroup` calls of the entity layer never hit a data set (the proviso in `blkFind`, and the container hypothesis of
      `Op.wf` in Props/C08Full.lean, hold in every reachable state);
    * `link_targets_exist`, `links_conform_to_schema`.
-/
namespace Nix.St
open Store

def initRoles : ObjId → Role := fun o => if o = 0 then .root else if o = 1 then .topMeta else .topData

/-- a history of calls on a new file in which every call gets objects of the role its C++ signature guarantees -/
def Reachable (s : Store) (ρ : ObjId → Role) : Prop :=
  ∃ id created format version ops, KindedRun (newFile id created format version) initRoles ops ∧
    s = run (newFile id created format version) ops ∧ ρ = runRoles (newFile id created format version) initRoles ops

theorem reachable_wt {s : Store} {ρ : ObjId → Role} (h : Reachable s ρ) : WT s ρ := by
  obtain ⟨id, created, format, version, ops, hk, rfl, rfl⟩ := h
  exact run_wt (newFile_wt id created format version) ops hk

theorem names_unique_per_parent {s : Store} {ρ : ObjId → Role} (h : Reachable s ρ) (o : ObjId) :
    (s.linksOf o).Pairwise fun a b => a.1 ≠ b.1 ∨ a.1.isEmpty = true :=
  (reachable_wt h).uniq o

theorem lookup_by_name_finds_the_link {s : Store} {ρ : ObjId → Role} (h : Reachable s ρ) (o : ObjId) (n : String) (t : ObjId)
    (hn : n.isEmpty = false) (hm : (n, t) ∈ s.linksOf o) : s.child? o n = some t :=
  lookup_of_uniq ((reachable_wt h).uniq o) hn hm

theorem link_targets_exist {s : Store} {ρ : ObjId → Role} (h : Reachable s ρ) (o : ObjId) (l : String × ObjId)
    (hm : l ∈ s.linksOf o) : l.2 < s.objs.length :=
  ((reachable_wt h).link o l hm).1

theorem links_conform_to_schema {s : Store} {ρ : ObjId → Role} (h : Reachable s ρ) (o : ObjId) (l : String × ObjId)
    (hm : l ∈ s.linksOf o) : childRole (ρ o) l.1 = some (ρ l.2) :=
  ((reachable_wt h).link o l hm).2

theorem WT.children_are_groups {s : Store} {ρ : ObjId → Role} (h : WT s ρ) (o : ObjId) (ho : ρ o ≠ .pcont)
    (l : String × ObjId) (hm : l ∈ s.linksOf o) : s.isGroupObj l.2 = true := by
  have ⟨hl, hr⟩ := h.link o l hm
  rw [h.grp l.2 hl, decide_eq_true_eq]
  exact fun hp => ho (childRole_prop (hp ▸ hr))

theorem children_are_groups {s : Store} {ρ : ObjId → Role} (h : Reachable s ρ) (o : ObjId) (ho : ρ o ≠ .pcont)
    (l : String × ObjId) (hm : l ∈ s.linksOf o) : s.isGroupObj l.2 = true :=
  (reachable_wt h).children_are_groups o ho l hm

theorem properties_are_datasets {s : Store} {ρ : ObjId → Role} (h : Reachable s ρ) (o : ObjId) (ho : ρ o = .pcont)
    (l : String × ObjId) (hm : l ∈ s.linksOf o) : s.isGroupObj l.2 = false := by
  have ⟨hl, hρ⟩ := (reachable_wt h).role_of_link (r := .prop) hm (by rw [ho]; rfl)
  rw [(reachable_wt h).grp l.2 hl, hρ]; rfl

/-- the container hypothesis of `Op.wf` (Props/C08Full.lean) holds in every state that satisfies the schema -/
theorem WT.block_containers_hold_groups {s : Store} {ρ : ObjId → Role} (h : WT s ρ) (b : ObjId) (hb : ρ b = .ent .B) (k : String) :
    ∀ p, s.optGroup b (blockContainer k) = some p → ∀ l ∈ s.linksOf p, s.isGroupObj l.2 = true := fun p hp =>
  h.children_are_groups p (by rw [(h.role_of_link (optGroup_mem hp) (by rw [hb]; exact childRole_blockContainer k)).2]; simp)

/-- non-vacuity: a kinded history with a block, an array, a section, a metadata link, a tag and a reference; the schema holds
    after it by `run_wt`, and here the handles the model hands out are checked to have the roles used (3 block, 5 array,
    6 section, 8 tag) -/
example :
    let s0 := newFile "f" "0" "xnix" "[1,2,0]"
    let ops := [Op.createBlock "b" "xt" "11111111-1111-1111-1111-111111111111" "1",
                Op.createDataArray 3 "a" "xt" "22222222-2222-2222-2222-222222222222" "1" "Double" "[2]",
                Op.createSection none "m" "xt" "33333333-3333-3333-3333-333333333333" "1",
                Op.setSectionLink 5 "metadata" "33333333-3333-3333-3333-333333333333",
                Op.createTag 3 "t" "xt" "44444444-4444-4444-4444-444444444444" "1" "[d0]",
                Op.addReference 8 3 "a",
                Op.removeEntity 3 "A" "a" ""]
    (runRoles s0 initRoles ops 3 = .ent .B ∧ runRoles s0 initRoles ops 5 = .ent .A ∧ runRoles s0 initRoles ops 6 = .ent .S ∧
     runRoles s0 initRoles ops 8 = .ent .T ∧ runRoles s0 initRoles ops 9 = .lcont .A) ∧
    (run s0 (ops.take 6)).child? 9 "22222222-2222-2222-2222-222222222222" = some 5 ∧
    (run s0 ops).child? 9 "22222222-2222-2222-2222-222222222222" = none := by
  decide +kernel

/-- … and that history is kinded: every call gets objects of the role its signature asks for -/
example :
    KindedRun (newFile "f" "0" "xnix" "[1,2,0]") initRoles
      [Op.createBlock "b" "xt" "11111111-1111-1111-1111-111111111111" "1",
       Op.createDataArray 3 "a" "xt" "22222222-2222-2222-2222-222222222222" "1" "Double" "[2]",
       Op.createSection none "m" "xt" "33333333-3333-3333-3333-333333333333" "1",
       Op.setSectionLink 5 "metadata" "33333333-3333-3333-3333-333333333333",
       Op.createTag 3 "t" "xt" "44444444-4444-4444-4444-444444444444" "1" "[d0]",
       Op.addReference 8 3 "a",
       Op.removeEntity 3 "A" "a" ""] := by
  simp only [KindedRun, Op.kinded, and_true, true_and]
  refine ⟨?_, ?_, ?_, ?_, ?_⟩
  · decide +kernel
  · intro x hx; cases hx
  · decide +kernel
  · decide +kernel
  · decide +kernel

end Nix.St
