import NixModel.Step
import NixModel.Proofs.Lookup
/-
  What a delete does to the store: `unlinkAll D` removes, in every object, the links into a set D of objects and nothing else
  (`unlinkAll_frame`); `Unlinks P s s'` says that `s'` is such a store with D inside `P`, a preorder, so that loops and recursions
  of deletes are deletes; every delete entry point only unlinks objects below the container it searched (`Below`,
  `deleteNested_unlinks_below`, `deleteBlock_unlinks_below` … `removeEntity_unlinks_below`).  `Sys`, `WT` and the attribute footprint
  read their delete cases off this; the statements of C04 itself are in Props/C04.lean.
-/
namespace Nix.St
open Store

def Store.unlinkAll (s : Store) (D : List ObjId) : Store :=
  { objs := s.objs.map fun ob => { ob with links := ob.links.filter fun l => !D.contains l.2 } }

inductive Reach (s : Store) : ObjId → ObjId → Prop
  | refl (a : ObjId) : Reach s a a
  | step {a b c : ObjId} (n : String) : Reach s a b → (n, c) ∈ s.linksOf b → Reach s a c

theorem unlinkAll_obj? (s : Store) (D : List ObjId) (o : ObjId) :
    (s.unlinkAll D).obj? o = (s.obj? o).map fun ob => { ob with links := ob.links.filter fun l => !D.contains l.2 } := by
  simp [Store.unlinkAll, obj?]

theorem linksOf_unlinkAll (s : Store) (D : List ObjId) (o : ObjId) :
    (s.unlinkAll D).linksOf o = (s.linksOf o).filter (fun l => !D.contains l.2) := by
  simp only [linksOf, unlinkAll_obj?]; cases s.obj? o <;> simp

theorem attr?_unlinkAll (s : Store) (D : List ObjId) (o : ObjId) (k : String) : (s.unlinkAll D).attr? o k = s.attr? o k := by
  simp only [attr?, unlinkAll_obj?]; cases s.obj? o <;> simp

theorem isGroupObj_unlinkAll (s : Store) (D : List ObjId) (o : ObjId) : (s.unlinkAll D).isGroupObj o = s.isGroupObj o := by
  simp only [isGroupObj, unlinkAll_obj?]; cases s.obj? o <;> simp

theorem length_unlinkAll (s : Store) (D : List ObjId) : (s.unlinkAll D).objs.length = s.objs.length := by simp [Store.unlinkAll]

/-- "harms nothing else": attributes, kind and every link not into D survive, in order -/
theorem unlinkAll_frame (s : Store) (D : List ObjId) (o : ObjId) :
    (s.unlinkAll D).linksOf o = (s.linksOf o).filter (fun l => !D.contains l.2) ∧
    (∀ k, (s.unlinkAll D).attr? o k = s.attr? o k) ∧
    (s.unlinkAll D).isGroupObj o = s.isGroupObj o ∧
    (s.unlinkAll D).objs.length = s.objs.length :=
  ⟨linksOf_unlinkAll s D o, attr?_unlinkAll s D o, isGroupObj_unlinkAll s D o, length_unlinkAll s D⟩

theorem unlinkAll_sublist (s : Store) (D : List ObjId) (o : ObjId) : ((s.unlinkAll D).linksOf o).Sublist (s.linksOf o) := by
  rw [linksOf_unlinkAll]
  exact List.filter_sublist

theorem unlinkAll_reach_mono (s : Store) (D : List ObjId) (a b : ObjId) (h : Reach (s.unlinkAll D) a b) : Reach s a b := by
  induction h with
  | refl => exact .refl _
  | step n _ hl ih => exact .step n ih ((unlinkAll_sublist s D _).subset hl)

theorem unlinkAll_nil (s : Store) : s.unlinkAll [] = s := by
  have (l : List (String × ObjId)) : l.filter (fun _ => true) = l := List.filter_eq_self.mpr fun _ _ => rfl
  simp only [Store.unlinkAll, List.contains_nil, Bool.not_false, this]
  exact congrArg Store.mk (List.map_id' s.objs)

theorem unlinkAll_unlinkAll (s : Store) (D1 D2 : List ObjId) : (s.unlinkAll D1).unlinkAll D2 = s.unlinkAll (D1 ++ D2) := by
  simp [Store.unlinkAll, List.filter_filter, Bool.and_comm]

theorem removeAllLinksTo_eq (s : Store) (t : ObjId) : s.removeAllLinksTo t = s.unlinkAll [t] := by
  simp only [removeAllLinksTo, Store.unlinkAll, List.contains_cons, List.contains_nil, Bool.or_false, bne]

theorem removeAllLinks_spec (s : Store) (g : ObjId) (n : String) :
    ((s.removeAllLinks g n).2 = false ∧ (s.removeAllLinks g n).1 = s) ∨
    (∃ t, s.child? g n = some t ∧ (s.removeAllLinks g n).2 = true ∧ (s.removeAllLinks g n).1 = s.unlinkAll [t]) := by
  unfold removeAllLinks
  split
  · split
    · rename_i t ht
      exact .inr ⟨t, ht, rfl, removeAllLinksTo_eq s t⟩
    · exact .inl ⟨rfl, rfl⟩
  · exact .inl ⟨rfl, rfl⟩

def Unlinks (P : ObjId → Prop) (s s' : Store) : Prop := ∃ D, (∀ d ∈ D, P d) ∧ s' = s.unlinkAll D

theorem Unlinks.refl {P : ObjId → Prop} (s : Store) : Unlinks P s s := ⟨[], nofun, (unlinkAll_nil s).symm⟩

theorem Unlinks.trans {P : ObjId → Prop} {a b c : Store} (h1 : Unlinks P a b) (h2 : Unlinks P b c) : Unlinks P a c := by
  obtain ⟨D1, p1, rfl⟩ := h1
  obtain ⟨D2, p2, rfl⟩ := h2
  exact ⟨D1 ++ D2, fun d hd => (List.mem_append.mp hd).elim (p1 d) (p2 d), unlinkAll_unlinkAll a D1 D2⟩

theorem Unlinks.imp {P Q : ObjId → Prop} {a b : Store} (h : Unlinks P a b) (hpq : ∀ d, P d → Q d) : Unlinks Q a b :=
  let ⟨D, p, e⟩ := h; ⟨D, fun d hd => hpq d (p d hd), e⟩

theorem Unlinks.links {P : ObjId → Prop} {a b : Store} (h : Unlinks P a b) {o : ObjId} {l : String × ObjId} (hl : l ∈ b.linksOf o) :
    l ∈ a.linksOf o := by
  obtain ⟨D, _, rfl⟩ := h
  exact (unlinkAll_sublist a D o).subset hl

theorem Unlinks.length {P : ObjId → Prop} {a b : Store} (h : Unlinks P a b) : b.objs.length = a.objs.length := by
  obtain ⟨D, _, rfl⟩ := h
  exact length_unlinkAll a D

theorem Unlinks.reach {P : ObjId → Prop} {a b : Store} (h : Unlinks P a b) {x y : ObjId} (hr : Reach b x y) : Reach a x y := by
  obtain ⟨D, _, rfl⟩ := h
  exact unlinkAll_reach_mono a D x y hr

theorem removeAllLinks_unlinks (s : Store) (g : ObjId) (n : String) :
    Unlinks (fun d => ∃ m, (m, d) ∈ s.linksOf g) s (s.removeAllLinks g n).1 := by
  rcases removeAllLinks_spec s g n with ⟨_, h⟩ | ⟨t, ht, _, h⟩ <;> rw [h]
  · exact .refl s
  · exact ⟨[t], fun d hd => ⟨n, by rw [List.mem_singleton.mp hd]; exact child?_mem ht⟩, rfl⟩

theorem Reach.trans {s : Store} {a b c : ObjId} (h1 : Reach s a b) (h2 : Reach s b c) : Reach s a c := by
  induction h2 with
  | refl => exact h1
  | step n _ hl ih => exact .step n ih hl

/-- `d` is a link target of an object reachable from `c`: at least one link below it (so not `c` itself, short of a cycle) -/
def Below (s : Store) (c d : ObjId) : Prop := ∃ g m, Reach s c g ∧ (m, d) ∈ s.linksOf g

theorem Below.child {s : Store} {c d : ObjId} {m : String} (h : (m, d) ∈ s.linksOf c) : Below s c d := ⟨c, m, .refl c, h⟩

theorem Unlinks.below {P : ObjId → Prop} {s s' : Store} (h : Unlinks P s s') {c c' d : ObjId} (hc : Reach s c c') (hd : Below s' c' d) :
    Below s c d :=
  let ⟨g, m, hr, hm⟩ := hd; ⟨g, m, hc.trans (h.reach hr), h.links hm⟩

theorem afterKids_unlinks {rec : Store → ObjId → String → Store × Bool} {s : Store} {c v : ObjId} {cname : String} (hv : Reach s c v)
    (hrec : ∀ s' vc k, Unlinks (Below s' vc) s' (rec s' vc k).1) : Unlinks (Below s c) s (afterKids rec s v cname) := by
  unfold afterKids
  cases hvc : s.optGroup v cname with
  | none => exact .refl s
  | some vc =>
    -- a round unlinks below `vc` in the store it finds: that is below `c` in `s`, since `c` reaches `v`, which links `vc`
    exact List.foldlRecOn _ _ (.refl s) fun s' hs' kid _ =>
      hs'.trans ((hrec s' vc kid).imp fun d hd => hs'.below (hv.step cname (optGroup_mem hvc)) hd)

/-- the common tail of `deleteNested` and `deleteBlockSource` once the victim `v` is found -/
theorem victim_unlinks {rec : Store → ObjId → String → Store × Bool} {s : Store} {c v : ObjId} {cname m : String}
    (hm : (m, v) ∈ s.linksOf c) (hrec : ∀ s' vc k, Unlinks (Below s' vc) s' (rec s' vc k).1) (n : String) :
    Unlinks (Below s c) s ((afterKids rec s v cname).removeAllLinks c n).1 :=
  have hk := afterKids_unlinks (cname := cname) (Reach.step m (.refl c) hm) hrec
  hk.trans ((removeAllLinks_unlinks _ c n).imp fun _ ⟨_, hd⟩ => .child (hk.links hd))

theorem deleteNested_unlinks_below (cname : String) (fuel : Nat) : ∀ (s : Store) (c : ObjId) (key : String),
    Unlinks (Below s c) s (deleteNested cname fuel s c key).1 := by
  induction fuel with
  | zero => exact fun s _ _ => .refl s
  | succ f ih =>
    intro s c key
    unfold deleteNested
    cases hf : s.findGroupByNameOrAttribute c "entity_id" key with
    | none => exact .refl s
    | some v => obtain ⟨m, hm⟩ := findGroup_mem hf; exact victim_unlinks hm ih _

theorem removeAllLinks_unlinks_below (s : Store) (c : ObjId) (n : String) : Unlinks (Below s c) s (s.removeAllLinks c n).1 :=
  (removeAllLinks_unlinks s c n).imp fun _ ⟨_, hd⟩ => .child hd

theorem deleteBlock_unlinks_below (s : Store) (k : String) : Unlinks (Below s dataGrp) s (deleteBlock s k).1 := by
  unfold deleteBlock
  split
  · exact .refl s
  · exact removeAllLinks_unlinks_below ..

theorem deleteSection_unlinks_below (s : Store) (p : Option ObjId) (k : String) :
    Unlinks (fun d => ∃ c, (c = metadataGrp ∨ ∃ x, p = some x ∧ s.optGroup x "sections" = some c) ∧ Below s c d) s
      (deleteSection s p k).1 := by
  unfold deleteSection
  cases p with
  | none => exact (deleteNested_unlinks_below _ _ s _ k).imp fun d hd => ⟨_, .inl rfl, hd⟩
  | some x =>
    simp only
    cases hc : s.optGroup x "sections" with
    | none => exact .refl s
    | some c => exact (deleteNested_unlinks_below _ _ s c k).imp fun d hd => ⟨c, .inr ⟨x, rfl, hc⟩, hd⟩

theorem deleteSubSource_unlinks_below (s : Store) (p : ObjId) (k : String) :
    Unlinks (fun d => ∃ c, s.optGroup p "sources" = some c ∧ Below s c d) s (deleteSubSource s p k).1 := by
  unfold deleteSubSource
  cases hc : s.optGroup p "sources" with
  | none => exact .refl s
  | some c => exact (deleteNested_unlinks_below _ _ s c k).imp fun d hd => ⟨c, rfl, hd⟩

theorem deleteBlockSource_unlinks_below (s : Store) (b : ObjId) (k : String) :
    Unlinks (fun d => ∃ c, s.optGroup b "sources" = some c ∧ Below s c d) s (deleteBlockSource s b k).1 := by
  unfold deleteBlockSource
  cases hc : s.optGroup b "sources" with
  | none => exact .refl s
  | some c =>
    simp only
    cases hf : blkFindKey s b "O" k with
    | none => exact .refl s
    | some v =>
      obtain ⟨p, m, hp, hm, _⟩ := blkFindKey_some hf
      cases hp.symm.trans hc
      exact (victim_unlinks hm (deleteNested_unlinks_below _ _) _).imp fun d hd => ⟨c, rfl, hd⟩

theorem removeEntity_unlinks_below (s : Store) (b : ObjId) (kd n i : String) :
    Unlinks (fun d => ∃ c, s.optGroup b (blockContainer kd) = some c ∧ Below s c d) s (removeEntity s b kd n i).1 := by
  unfold removeEntity
  split
  · rename_i p e hp _
    exact (removeAllLinks_unlinks_below s p _).imp fun d hd => ⟨p, hp, hd⟩
  · exact .refl s

end Nix.St
