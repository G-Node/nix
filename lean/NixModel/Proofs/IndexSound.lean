import NixModel.Spec.C07
/-
  One notion under all of C07: the CUT of a strictly increasing axis at a position.  `a.IsCut P k` tests only `k` and its predecessor;
  for a `P` that smaller coordinates inherit (`· < p`, `· ≤ p`) exactly the valid indices below `k` then have `P` (`IsCut.iff`).  The
  five matching rules read off the cut at `· < p` and the cut at `· ≤ p` (`ofCuts_spec`); the two differ, by one, only at a coordinate.
  The evaluator `relIndex` tests a cut next to the answer (`rel_evaluator_sound`, Props/C07); each kernel computes the cuts.
  At the end the four ways a kernel gets one cut from a hit or from the other cut (`IsCut.lt_at`, `.le_succ`, `.le_same`, `.lt_same`).
-/
open Std
namespace Nix.C07
open Nix Scalar

theorem Axis.valid_of_le {α : Type} (a : Axis α) {i j : Nat} (h : a.valid j) (hij : i ≤ j) : a.valid i := by
  unfold Axis.valid at *
  split <;> simp_all <;> omega

variable {α : Type} [Scalar α] [IsLinearOrder α] [LawfulOrderLT α]

theorem Axis.mono_le (a : Axis α) (hm : a.StrictMono) {i j : Nat} (hj : a.valid j) (hij : i ≤ j) :
    a.coord i ≤ a.coord j := by
  rcases Nat.lt_or_eq_of_le hij with h | h
  · exact Std.le_of_lt (hm i j hj h)
  · subst h; exact Std.le_refl _

def Axis.IsCut (a : Axis α) (P : α → Prop) (k : Nat) : Prop :=
  (k = 0 ∨ a.valid (k - 1) ∧ P (a.coord (k - 1))) ∧ (a.valid k → ¬ P (a.coord k))

def Closed (P : α → Prop) : Prop := ∀ x y, x ≤ y → P y → P x
theorem closed_lt (p : α) : Closed (· < p) := fun _ _ h1 h2 => Std.lt_of_le_of_lt h1 h2
omit [LawfulOrderLT α] in
theorem closed_le (p : α) : Closed (· ≤ p) := fun _ _ h1 h2 => Std.le_trans h1 h2

section
variable {a : Axis α} (hm : a.StrictMono) {P : α → Prop} (hP : Closed P) {k : Nat} (h : a.IsCut P k)
include hm hP h

theorem Axis.IsCut.iff {j : Nat} (hj : a.valid j) : P (a.coord j) ↔ j < k := by
  constructor
  · intro hpj
    apply Nat.lt_of_not_le
    intro hkj
    exact h.2 (a.valid_of_le hj hkj) (hP _ _ (a.mono_le hm hj hkj) hpj)
  · intro hjk
    rcases h.1 with h0 | ⟨hv, hp⟩
    · omega
    · exact hP _ _ (a.mono_le hm hv (by omega)) hp

theorem Axis.IsCut.last : if 1 ≤ k then a.valid (k - 1) ∧ P (a.coord (k - 1)) ∧ ∀ j, a.valid j → P (a.coord j) → j ≤ k - 1
    else ∀ j, a.valid j → ¬ P (a.coord j) := by
  split
  · rename_i h0
    obtain ⟨hv, hp⟩ := h.1.resolve_left (by omega)
    exact ⟨hv, hp, fun j hj hp => by have := (h.iff hm hP hj).1 hp; omega⟩
  · rename_i h0; exact fun j hj hp => by have := (h.iff hm hP hj).1 hp; omega

theorem Axis.IsCut.first {Q : α → Prop} (hQ : ∀ x, Q x ↔ ¬ P x) :
    if a.valid k then a.valid k ∧ Q (a.coord k) ∧ ∀ j, a.valid j → Q (a.coord j) → k ≤ j
    else ∀ j, a.valid j → ¬ Q (a.coord j) := by
  simp only [hQ]
  split
  · rename_i hv; exact ⟨hv, h.2 hv, fun j hj hp => Nat.le_of_not_lt fun hlt => hp ((h.iff hm hP hj).2 hlt)⟩
  · rename_i hv; exact fun j hj hq => hq ((h.iff hm hP hj).2 (Nat.lt_of_not_le fun hle => hv (a.valid_of_le hj hle)))
end

section
variable {a : Axis α} (hm : a.StrictMono) {p : α} {k k' : Nat}
include hm

theorem Axis.IsCut.lt (c : a.IsCut (· < p) k) : IsIndex a .less p (if 1 ≤ k then some (k - 1) else none) := by
  rw [apply_ite (IsIndex a .less p)]; exact c.last hm (closed_lt p)

theorem Axis.IsCut.le (c' : a.IsCut (· ≤ p) k') : IsIndex a .lessOrEqual p (if 1 ≤ k' then some (k' - 1) else none) := by
  rw [apply_ite (IsIndex a .lessOrEqual p)]; exact c'.last hm (closed_le p)

theorem Axis.IsCut.ge (c : a.IsCut (· < p) k) : IsIndex a .greaterOrEqual p (if a.valid k then some k else none) := by
  rw [apply_ite (IsIndex a .greaterOrEqual p)]; exact c.first hm (closed_lt p) fun _ => Std.not_lt.symm

theorem Axis.IsCut.gt (c' : a.IsCut (· ≤ p) k') : IsIndex a .greater p (if a.valid k' then some k' else none) := by
  rw [apply_ite (IsIndex a .greater p)]; exact c'.first hm (closed_le p) fun _ => Std.not_le.symm

theorem Axis.IsCut.eq (c : a.IsCut (· < p) k) (c' : a.IsCut (· ≤ p) k') :
    IsIndex a .equal p (if k < k' then some k else none) := by
  split
  · rename_i hlt
    have hv : a.valid k := a.valid_of_le (c'.1.resolve_left (by omega)).1 (by omega)
    exact ⟨hv, Std.le_antisymm ((c'.iff hm (closed_le p) hv).2 hlt) (Std.not_lt.1 (c.2 hv))⟩
  · rename_i hlt
    intro j hj he
    have h1 := (c'.iff hm (closed_le p) hj).1 (he ▸ Std.le_refl _)
    have h2 := mt (c.iff hm (closed_lt p) hj).2 (he ▸ Std.lt_irrefl)
    omega
end

def Axis.ofCuts (a : Axis α) (k k' : Nat) : PositionMatch → Option Nat
  | .greaterOrEqual => if a.valid k then some k else none
  | .greater => if a.valid k' then some k' else none
  | .less => if 1 ≤ k then some (k - 1) else none
  | .lessOrEqual => if 1 ≤ k' then some (k' - 1) else none
  | .equal => if k < k' then some k else none

theorem Axis.ofCuts_spec {a : Axis α} (hm : a.StrictMono) {p : α} {k k' : Nat} (c : a.IsCut (· < p) k) (c' : a.IsCut (· ≤ p) k')
    (m : PositionMatch) : IsIndex a m p (a.ofCuts k k' m) :=
  match m with
  | .equal => c.eq hm c'
  | .less => c.lt hm
  | .greater => c'.gt hm
  | .greaterOrEqual => c.ge hm
  | .lessOrEqual => c'.le hm

omit [IsLinearOrder α] in
theorem Axis.IsCut.lt_at {a : Axis α} (hm : a.StrictMono) {p : α} {k : Nat} (hv : a.valid k) (he : a.coord k = p) :
    a.IsCut (· < p) k :=
  ⟨(Nat.eq_zero_or_pos k).imp_right fun h => ⟨a.valid_of_le hv (Nat.sub_le k 1), he ▸ hm (k - 1) k hv (by omega)⟩,
    fun _ h => Std.lt_irrefl (he ▸ h)⟩

theorem Axis.IsCut.le_succ {a : Axis α} (hm : a.StrictMono) {p : α} {k : Nat} (hv : a.valid k) (he : a.coord k = p) :
    a.IsCut (· ≤ p) (k + 1) :=
  ⟨.inr ⟨hv, Std.le_of_eq he⟩, fun hv' => Std.not_le.2 (he ▸ hm k (k + 1) hv' (Nat.lt_succ_self k))⟩

theorem Axis.IsCut.le_same {a : Axis α} {p : α} {k : Nat} (c : a.IsCut (· < p) k) (hne : a.valid k → a.coord k ≠ p) :
    a.IsCut (· ≤ p) k :=
  ⟨c.1.imp_right fun ⟨hv, hp⟩ => ⟨hv, Std.le_of_lt hp⟩, fun hv hle => hne hv (Std.le_antisymm hle (Std.not_lt.1 (c.2 hv)))⟩

theorem Axis.IsCut.lt_same {a : Axis α} {p : α} {k : Nat} (c' : a.IsCut (· ≤ p) k) (hne : 1 ≤ k → a.coord (k - 1) ≠ p) :
    a.IsCut (· < p) k := by
  refine ⟨?_, fun hv h => c'.2 hv (Std.le_of_lt h)⟩
  rcases Nat.eq_zero_or_pos k with h0 | hpos
  · exact .inl h0
  · obtain ⟨hv, hp⟩ := c'.1.resolve_left (by omega)
    exact .inr ⟨hv, Std.lt_of_le_of_ne hp (hne hpos)⟩

variable [LawfulScalarEq α]

set_option linter.unusedSectionVars false in
theorem beq_false_iff (a b : α) : Scalar.beq a b = false ↔ a ≠ b :=
  Bool.not_eq_true _ ▸ not_congr (LawfulScalarEq.beq_iff a b)

end Nix.C07
