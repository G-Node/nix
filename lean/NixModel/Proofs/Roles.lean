import NixModel.Step
import NixModel.Proofs.Unlinks
/-
  The schema of a nix file, as an invariant of the store model: every object has a `Role`, and `WT s ρ` says that every link
  conforms to `childRole (role of the holder) (link name) = some (role of the target)`, that targets exist, that an object is a
  data set iff its role is `prop`, and that non-empty link names are pairwise distinct in every object.  HDF5 enforces the last;
  the model's `addLink` appends blindly, so `WT` says that nix never asks for a name that is taken.

  Roles are ghost state: the store does not contain them, the theorems carry `ρ : ObjId → Role` along a history
  (`Op.roleAfter`, Proofs/RolesHistory.lean).

  `WT.of_frame` is the one place where the clauses are re-established; every primitive of the store keeps `WT` as an instance
  of it.  A lookup hands back a link target of the container searched (Proofs/Lookup.lean), and `WT.role_of_link` gives every
  link target its role.
-/
namespace Nix.St
open Store

inductive Kind | B | S | O | A | D | T | M | G | F
deriving DecidableEq, Repr

inductive Role
  | root | topMeta | topData
  | ent (k : Kind)
  | cont (k : Kind)      -- name-keyed container: its children are the entities of kind k created in it
  | pcont                -- the `properties` container of a section
  | lcont (k : Kind)     -- id-keyed container of links to entities of kind k that live elsewhere
  | prop                 -- a property (a data set)
deriving DecidableEq, Repr

def childRole : Role → String → Option Role
  | .root, n => if n == "metadata" then some .topMeta else if n == "data" then some .topData else none
  | .topMeta, _ => some (.ent .S)
  | .topData, _ => some (.ent .B)
  | .ent .B, n =>
    if n == "data_arrays" then some (.cont .A) else if n == "data_frames" then some (.cont .D)
    else if n == "tags" then some (.cont .T) else if n == "multi_tags" then some (.cont .M)
    else if n == "groups" then some (.cont .G) else if n == "sources" then some (.cont .O)
    else if n == "metadata" then some (.ent .S) else none
  | .ent .S, n =>
    if n == "sections" then some (.cont .S) else if n == "properties" then some .pcont
    else if n == "link" then some (.ent .S) else none
  | .ent .O, n => if n == "sources" then some (.cont .O) else if n == "metadata" then some (.ent .S) else none
  | .ent .A, n => if n == "sources" then some (.lcont .O) else if n == "metadata" then some (.ent .S) else none
  | .ent .D, n => if n == "sources" then some (.lcont .O) else if n == "metadata" then some (.ent .S) else none
  | .ent .T, n =>
    if n == "references" then some (.lcont .A) else if n == "features" then some (.cont .F)
    else if n == "sources" then some (.lcont .O) else if n == "metadata" then some (.ent .S) else none
  | .ent .M, n =>
    if n == "references" then some (.lcont .A) else if n == "features" then some (.cont .F)
    else if n == "sources" then some (.lcont .O) else if n == "metadata" then some (.ent .S)
    else if n == "positions" then some (.ent .A) else if n == "extents" then some (.ent .A) else none
  | .ent .G, n =>  -- "data_frame": the singular is GroupHDF5.cpp's spelling
    if n == "data_arrays" then some (.lcont .A) else if n == "data_frame" then some (.lcont .D)
    else if n == "tags" then some (.lcont .T) else if n == "multi_tags" then some (.lcont .M)
    else if n == "sources" then some (.lcont .O) else if n == "metadata" then some (.ent .S) else none
  | .ent .F, n => if n == "data" then some (.ent .A) else none
  | .cont k, _ => some (.ent k)
  | .pcont, _ => some .prop
  | .lcont k, _ => some (.ent k)
  | .prop, _ => none

theorem ite_ne_some {c : Prop} [Decidable c] {a b : Option Role} {r : Role} (ha : a ≠ some r) (hb : b ≠ some r) :
    (if c then a else b) ≠ some r := by split <;> assumption

theorem childRole_prop {r : Role} {n : String} (h : childRole r n = some .prop) : r = .pcont := by
  cases r with
  | pcont => rfl
  | ent k =>
    refine absurd h ?_
    cases k <;> repeat' first | apply ite_ne_some | decide
  | root => exact absurd h (ite_ne_some (by decide) (ite_ne_some (by decide) (by decide)))
  | _ => cases h

/-- the kind behind the kind token of Block-level entry points (`blockContainer`) -/
def bKind (k : String) : Kind :=
  if k == "A" then .A else if k == "D" then .D else if k == "T" then .T else if k == "M" then .M else if k == "G" then .G else .O

/-- the kind behind the kind token of Group-level entry points (`groupContainer`) -/
def gKind (k : String) : Kind := if k == "A" then .A else if k == "D" then .D else if k == "T" then .T else .M

theorem ite_rel {α β : Type} {R : α → β → Prop} {c : Prop} [Decidable c] {a a' : α} {b b' : β} (h : R a b) (h' : R a' b') :
    R (if c then a else a') (if c then b else b') := by split <;> assumption

theorem childRole_blockContainer (k : String) : childRole (.ent .B) (blockContainer k) = some (.cont (bKind k)) :=
  -- `blockContainer k` and `bKind k` are if-chains over the same tests: they are related leaf by leaf
  have {c : Prop} [Decidable c] {n n' : String} {x x' : Kind} := ite_rel (c := c) (a := n) (a' := n') (b := x) (b' := x')
    (R := fun n x => childRole (.ent .B) n = some (.cont x))
  this rfl (this rfl (this rfl (this rfl (this rfl rfl))))

theorem childRole_groupContainer (k : String) : childRole (.ent .G) (groupContainer k) = some (.lcont (gKind k)) :=
  have {c : Prop} [Decidable c] {n n' : String} {x x' : Kind} := ite_rel (c := c) (a := n) (a' := n') (b := x) (b' := x')
    (R := fun n x => childRole (.ent .G) n = some (.lcont x))
  this rfl (this rfl (this rfl rfl))

/-- containment links — everything except the cross links from one entity to another (metadata, link, positions, extents,
    data) and the member links of the id-keyed link containers: the target of a containment link is created under its holder -/
def contains (r r' : Role) : Bool :=
  match r' with
  | .ent _ => (match r with | .cont _ => true | .topMeta => true | .topData => true | _ => false)
  | _ => true

structure WT (s : Store) (ρ : ObjId → Role) : Prop where
  len : 3 ≤ s.objs.length
  r0 : ρ 0 = .root
  r1 : ρ 1 = .topMeta
  r2 : ρ 2 = .topData
  link : ∀ o l, l ∈ s.linksOf o → l.2 < s.objs.length ∧ childRole (ρ o) l.1 = some (ρ l.2)
  grp : ∀ o, o < s.objs.length → s.isGroupObj o = decide (ρ o ≠ .prop)
  uniq : ∀ o, UniqNames (s.linksOf o)
  /-- what is contained is younger than what contains it: along the containment links the index grows, so they form no cycle
      (no section or source is its own descendant), whatever the cross links do; a unique parent is not claimed -/
  mono : ∀ o l, l ∈ s.linksOf o → contains (ρ o) (ρ l.2) = true → o < l.2

def upd (ρ : ObjId → Role) (x : ObjId) (r : Role) : ObjId → Role := fun y => if y = x then r else ρ y

/-- `ρ'` (after a step) gives the objects of `s` the roles `ρ` gave them: only new objects get a role -/
def Agree (s : Store) (ρ ρ' : ObjId → Role) : Prop := ∀ o, o < s.objs.length → ρ' o = ρ o

theorem Agree.refl (s : Store) (ρ : ObjId → Role) : Agree s ρ ρ := fun _ _ => rfl

theorem Agree.trans {s s' : Store} {ρ ρ' ρ'' : ObjId → Role} (h1 : Agree s ρ ρ') (h2 : Agree s' ρ' ρ'')
    (hl : s.objs.length ≤ s'.objs.length) : Agree s ρ ρ'' :=
  fun o ho => by rw [h2 o (Nat.lt_of_lt_of_le ho hl), h1 o ho]

theorem Agree.upd {s : Store} {ρ : ObjId → Role} {x : ObjId} (hx : s.objs.length ≤ x) (r : Role) : Agree s ρ (upd ρ x r) :=
  fun _ ho => if_neg (Nat.ne_of_lt (Nat.lt_of_lt_of_le ho hx))

theorem upd_same (ρ : ObjId → Role) (x : ObjId) (r : Role) : upd ρ x r x = r := if_pos rfl

theorem upd_self (ρ : ObjId → Role) (x : ObjId) : upd ρ x (ρ x) = ρ := by
  funext y; simp only [upd]; split
  · rename_i h; rw [h]
  · rfl

theorem newFile_wt (id created format version : String) :
    WT (newFile id created format version) (fun o => if o = 0 then .root else if o = 1 then .topMeta else .topData) := by
  have links : ∀ o l, l ∈ (newFile id created format version).linksOf o → o = 0 ∧ (l = ("metadata", 1) ∨ l = ("data", 2)) := by
    intro o l hl
    rw [linksOf_newFile] at hl
    split at hl
    · exact ⟨‹_›, by simpa [metadataGrp, dataGrp] using hl⟩
    · cases hl
  refine ⟨Nat.le_refl 3, rfl, rfl, rfl, fun o l hl => ?_, fun o ho => ?_, fun o => ?_, fun o l hl _ => ?_⟩
  · obtain ⟨rfl, rfl | rfl⟩ := links o l hl <;> exact ⟨Nat.lt_of_lt_of_le (by decide) (Nat.le_refl 3), rfl⟩
  · have ho : o < 3 := ho
    match o, ho with
    | 0, _ | 1, _ | 2, _ => rfl
  · rw [linksOf_newFile]; split <;> simp [UniqNames, metadataGrp, dataGrp]
  · obtain ⟨rfl, rfl | rfl⟩ := links o l hl <;> decide

theorem WT.role_of_link {s : Store} {ρ : ObjId → Role} (h : WT s ρ) {o x : ObjId} {n : String} {r : Role}
    (hm : (n, x) ∈ s.linksOf o) (hr : childRole (ρ o) n = some r) : x < s.objs.length ∧ ρ x = r :=
  ⟨(h.link o _ hm).1, (Option.some.inj (hr.symm.trans (h.link o _ hm).2)).symm⟩

theorem WT.of_frame {s s' : Store} {ρ ρ' : ObjId → Role} (h : WT s ρ) (ha : Agree s ρ ρ') (hlen : s.objs.length ≤ s'.objs.length)
    (hg : ∀ o, o < s.objs.length → s'.isGroupObj o = s.isGroupObj o)
    (hnew : ∀ o, s.objs.length ≤ o → o < s'.objs.length → s'.isGroupObj o = decide (ρ' o ≠ .prop))
    (hu : ∀ o, UniqNames (s'.linksOf o))
    (hl : ∀ o l, l ∈ s'.linksOf o → l ∈ s.linksOf o ∨
      l.2 < s'.objs.length ∧ childRole (ρ' o) l.1 = some (ρ' l.2) ∧ (contains (ρ' o) (ρ' l.2) = true → o < l.2)) : WT s' ρ' := by
  -- a link that was there joins two objects that were there: their roles have not changed
  have old : ∀ o l, l ∈ s.linksOf o → ρ' o = ρ o ∧ ρ' l.2 = ρ l.2 := fun o l hm =>
    ⟨ha o (Nat.lt_of_not_le fun hge => by rw [linksOf_nil_of_ge hge] at hm; cases hm), ha _ (h.link o l hm).1⟩
  have top : ∀ o, o < 3 → ρ' o = ρ o := fun o ho => ha o (Nat.lt_of_lt_of_le ho h.len)
  refine ⟨Nat.le_trans h.len hlen, (top 0 (by decide)).trans h.r0, (top 1 (by decide)).trans h.r1, (top 2 (by decide)).trans h.r2,
    fun o l hm => ?_, fun o ho => ?_, hu, fun o l hm => ?_⟩
  · rcases hl o l hm with hm | hm
    · rw [(old o l hm).1, (old o l hm).2]
      exact ⟨Nat.lt_of_lt_of_le (h.link o l hm).1 hlen, (h.link o l hm).2⟩
    · exact ⟨hm.1, hm.2.1⟩
  · by_cases hlt : o < s.objs.length
    · rw [hg o hlt, ha o hlt]; exact h.grp o hlt
    · exact hnew o (Nat.le_of_not_lt hlt) ho
  · rcases hl o l hm with hm | hm
    · rw [(old o l hm).1, (old o l hm).2]; exact h.mono o l hm
    · exact hm.2.2

theorem WT.congr {s : Store} {ρ ρ' : ObjId → Role} (h : WT s ρ) (ha : Agree s ρ ρ') : WT s ρ' :=
  h.of_frame ha (Nat.le_refl _) (fun _ _ => rfl) (fun _ h1 h2 => absurd h2 (Nat.not_lt.mpr h1)) h.uniq fun _ _ => .inl

theorem WT.filterLinks {s s' : Store} {ρ : ObjId → Role} (h : WT s ρ) (hlen : s'.objs.length = s.objs.length)
    (hg : ∀ o, s'.isGroupObj o = s.isGroupObj o) (hl : ∀ o, (s'.linksOf o).Sublist (s.linksOf o)) : WT s' ρ :=
  h.of_frame (Agree.refl s ρ) (Nat.le_of_eq hlen.symm) (fun o _ => hg o) (fun _ h1 h2 => absurd (hlen ▸ h2) (Nat.not_lt.mpr h1))
    (fun o => (h.uniq o).sublist (hl o)) fun o _ hm => .inl ((hl o).subset hm)

theorem WT.setAttr {s : Store} {ρ : ObjId → Role} (h : WT s ρ) (o : ObjId) (k v : String) : WT (s.setAttr o k v) ρ :=
  h.filterLinks (length_setAttr s o k v) (isGroupObj_setAttr s o k v) fun o' => by rw [linksOf_setAttr]; exact .refl _

theorem WT.removeAttr {s : Store} {ρ : ObjId → Role} (h : WT s ρ) (o : ObjId) (k : String) : WT (s.removeAttr o k) ρ :=
  h.filterLinks (length_removeAttr s o k) (isGroupObj_removeAttr s o k) fun o' => by rw [linksOf_removeAttr]; exact .refl _

theorem WT.unlink {s : Store} {ρ : ObjId → Role} (h : WT s ρ) (g : ObjId) (n : String) : WT (s.unlink g n) ρ :=
  h.filterLinks (length_unlink s g n) (isGroupObj_unlink s g n) fun o => by
    rw [linksOf_unlink]; split
    · exact List.filter_sublist
    · exact .refl _

theorem WT.unlinks {s s' : Store} {ρ : ObjId → Role} {P : ObjId → Prop} (h : WT s ρ) (hu : Unlinks P s s') : WT s' ρ := by
  obtain ⟨D, _, rfl⟩ := hu
  exact h.filterLinks (length_unlinkAll s D) (isGroupObj_unlinkAll s D) (unlinkAll_sublist s D)

theorem WT.removeGroup {s : Store} {ρ : ObjId → Role} (h : WT s ρ) (g : ObjId) (n : String) : WT (s.removeGroup g n) ρ := by
  unfold Store.removeGroup; split
  · exact h.unlink g n
  · exact h

theorem WT.removeData {s : Store} {ρ : ObjId → Role} (h : WT s ρ) (g : ObjId) (n : String) : WT (s.removeData g n) ρ := by
  unfold Store.removeData; split
  · exact h.unlink g n
  · exact h

theorem WT.removeAllLinks {s : Store} {ρ : ObjId → Role} (h : WT s ρ) (g : ObjId) (n : String) : WT (s.removeAllLinks g n).1 ρ :=
  h.unlinks (removeAllLinks_unlinks s g n)

theorem WT.addLink {s : Store} {ρ : ObjId → Role} (h : WT s ρ) (g : ObjId) (n : String) (t : ObjId)
    (ht : t < s.objs.length) (hr : childRole (ρ g) n = some (ρ t))
    (hfree : s.child? g n = none ∨ n.isEmpty = true) (hm : contains (ρ g) (ρ t) = true → g < t) : WT (s.addLink g n t) ρ := by
  refine h.of_frame (Agree.refl s ρ) (Nat.le_of_eq (length_addLink ..).symm) (fun o _ => isGroupObj_addLink ..)
    (fun _ h1 h2 => absurd (length_addLink .. ▸ h2) (Nat.not_lt.mpr h1)) (fun o => ?_) fun o l hl => ?_
  · rw [linksOf_addLink]; split
    · rename_i hc; rw [hc.1]; exact (h.uniq g).append n t hfree
    · exact h.uniq o
  · rw [linksOf_addLink] at hl
    split at hl
    · rename_i hc
      refine (List.mem_append.mp hl).imp_right fun h1 => ?_
      rw [List.mem_singleton.mp h1, hc.1, length_addLink]
      exact ⟨ht, hr, hm⟩
    · exact .inl hl

theorem WT.alloc {s : Store} {ρ : ObjId → Role} (h : WT s ρ) (ob : Obj) (r : Role) (hob : ob.links = [])
    (hkind : ob.isGroup = decide (r ≠ .prop)) : WT (s.alloc ob).1 (upd ρ s.objs.length r) := by
  have links (o : ObjId) : (s.alloc ob).1.linksOf o = s.linksOf o := by
    rw [linksOf_alloc]; split
    · rw [hob, linksOf_nil_of_ge (Nat.le_of_eq ‹o = _›.symm)]
    · rfl
  refine h.of_frame (Agree.upd (Nat.le_refl _) r) (by rw [length_alloc]; exact Nat.le_succ _)
    (fun o ho => by rw [isGroupObj_alloc, if_neg (Nat.ne_of_lt ho)]) (fun o h1 h2 => ?_) (fun o => links o ▸ h.uniq o)
    fun o l hl => .inl (links o ▸ hl)
  rw [length_alloc] at h2
  cases Nat.le_antisymm h1 (Nat.le_of_lt_succ h2)
  rw [isGroupObj_alloc, if_pos rfl, upd_same, hkind]

theorem WT.allocLink {s : Store} {ρ : ObjId → Role} (h : WT s ρ) (g : ObjId) (n : String) (ob : Obj) (r : Role)
    (hg : g < s.objs.length) (hob : ob.links = []) (hkind : ob.isGroup = decide (r ≠ .prop))
    (hr : childRole (ρ g) n = some r) (hfree : s.child? g n = none ∨ n.isEmpty = true) :
    WT ((s.alloc ob).1.addLink g n (s.alloc ob).2) (upd ρ s.objs.length r) := by
  refine (h.alloc ob r hob hkind).addLink g n _ (by rw [length_alloc]; exact Nat.lt_succ_self _) ?_ ?_ fun _ => hg
  · rw [Agree.upd (Nat.le_refl _) r g hg, alloc_snd, upd_same]; exact hr
  · rw [child?, linksOf_alloc, if_neg (Nat.ne_of_lt hg)]
    exact hfree

theorem WT.of_mem {s : Store} {ρ : ObjId → Role} (h : WT s ρ) {g x : ObjId} (hm : ∃ m, (m, x) ∈ s.linksOf g) :
    x < s.objs.length ∧ ∃ n, childRole (ρ g) n = some (ρ x) :=
  let ⟨m, hm⟩ := hm; ⟨(h.link g _ hm).1, m, (h.link g _ hm).2⟩

theorem WT.free_of_not_hasGroup {s : Store} {ρ : ObjId → Role} (h : WT s ρ) {g : ObjId} {n : String} {r : Role}
    (hr : childRole (ρ g) n = some r) (hr' : r ≠ .prop) (hh : s.hasGroup g n = false) :
    s.child? g n = none ∨ n.isEmpty = true := by
  cases hn : n.isEmpty with
  | true => exact .inr rfl
  | false =>
    cases hc : s.child? g n with
    | none => exact .inl rfl
    | some t =>
      -- what the name carries would be in the role `r`, hence a group
      have ⟨ht, hρt⟩ := h.role_of_link (child?_mem hc) hr
      have hgt := h.grp t ht
      simp [hasGroup, hn, hc, hgt, hρt, hr'] at hh

theorem WT.openGroupCreate {s : Store} {ρ : ObjId → Role} (h : WT s ρ) (g : ObjId) (n : String) (r : Role)
    (hg : g < s.objs.length) (hr : childRole (ρ g) n = some r) (hr' : r ≠ .prop) :
    WT (s.openGroupCreate g n).1 (upd ρ (s.openGroupCreate g n).2 r) ∧
    Agree s ρ (upd ρ (s.openGroupCreate g n).2 r) ∧
    s.objs.length ≤ (s.openGroupCreate g n).1.objs.length ∧
    (s.openGroupCreate g n).2 < (s.openGroupCreate g n).1.objs.length ∧
    upd ρ (s.openGroupCreate g n).2 r (s.openGroupCreate g n).2 = r := by
  have hlen := length_openGroupCreate s g n
  have hlt := openGroupCreate_snd_lt s g n
  rcases openGroupCreate_cases s g n with ⟨x, hx, e⟩ | ⟨hh, e⟩ <;> rw [e] at hlen hlt ⊢
  · -- the group was there, in the role the schema gives the name: nothing changes
    obtain ⟨_, rfl⟩ := h.role_of_link (optGroup_mem hx) hr
    dsimp only
    rw [upd_self]
    exact ⟨h, Agree.refl s ρ, hlen, hlt, rfl⟩
  · exact ⟨h.allocLink g n { isGroup := true } r hg rfl (by simp [hr']) hr (h.free_of_not_hasGroup hr hr' hh),
      Agree.upd (Nat.le_refl _) r, hlen, hlt, upd_same ..⟩

theorem WT.findGroupByAttribute {s : Store} {ρ : ObjId → Role} (h : WT s ρ) {g : ObjId} {a v : String} {x : ObjId}
    (hx : s.findGroupByAttribute g a v = some x) : x < s.objs.length ∧ ∃ n, childRole (ρ g) n = some (ρ x) :=
  h.of_mem (let ⟨m, hm, _⟩ := findGroupByAttribute_some hx; ⟨m, hm⟩)

theorem WT.findGroup {s : Store} {ρ : ObjId → Role} (h : WT s ρ) {g : ObjId} {a v : String} {x : ObjId}
    (hx : s.findGroupByNameOrAttribute g a v = some x) : x < s.objs.length ∧ ∃ n, childRole (ρ g) n = some (ρ x) :=
  h.of_mem (findGroup_mem hx)

theorem WT.findData {s : Store} {ρ : ObjId → Role} (h : WT s ρ) {g : ObjId} {a v : String} {x : ObjId}
    (hx : s.findDataByNameOrAttribute g a v = some x) : x < s.objs.length ∧ ∃ n, childRole (ρ g) n = some (ρ x) :=
  h.of_mem (findData_mem hx)

theorem WT.in_container {s : Store} {ρ : ObjId → Role} (h : WT s ρ) {p c x : ObjId} {cn m : String} {k : Kind}
    (hc : childRole (ρ p) cn = some (.cont k)) (hpc : s.optGroup p cn = some c) (hm : (m, x) ∈ s.linksOf c) :
    x < s.objs.length ∧ ρ x = .ent k :=
  h.role_of_link hm (by rw [(h.role_of_link (optGroup_mem hpc) hc).2]; rfl)

theorem WT.blkFind {s : Store} {ρ : ObjId → Role} (h : WT s ρ) {b : ObjId} {k n i : String} {x : ObjId} (hb : ρ b = .ent .B)
    (hx : blkFind s b k n i = some x) : x < s.objs.length ∧ ρ x = .ent (bKind k) :=
  let ⟨_, _, hp, hm, _⟩ := blkFind_some hx
  h.in_container (by rw [hb]; exact childRole_blockContainer k) hp hm

theorem WT.blkFindKey {s : Store} {ρ : ObjId → Role} (h : WT s ρ) {b : ObjId} {k key : String} {x : ObjId} (hb : ρ b = .ent .B)
    (hx : blkFindKey s b k key = some x) : x < s.objs.length ∧ ρ x = .ent (bKind k) :=
  h.blkFind hb (show St.blkFind s b k (identOfString key).1 (identOfString key).2 = some x from hx)

theorem WT.findSectionById {s : Store} {ρ : ObjId → Role} (h : WT s ρ) {id : String} {x : ObjId}
    (hx : findSectionById s id = some x) : x < s.objs.length ∧ ρ x = .ent .S :=
  findSectionById_closed _ (fun _ _ _ _ hr hrc hm => h.in_container (by rw [hr.2]; rfl) hrc hm)
    (fun _ _ hm => h.role_of_link hm (by rw [show ρ metadataGrp = _ from h.r1]; rfl)) hx

theorem WT.findSourceById {s : Store} {ρ : ObjId → Role} (h : WT s ρ) {b : ObjId} {id : String} {x : ObjId} (hb : ρ b = .ent .B)
    (hx : findSourceById s b id = some x) : x < s.objs.length ∧ ρ x = .ent .O :=
  findSourceById_closed _ (fun _ _ _ _ hr hrc hm => h.in_container (by rw [hr.2]; rfl) hrc hm)
    (fun _ _ _ hc hm => h.in_container (by rw [hb]; rfl) hc hm) hx

end Nix.St
