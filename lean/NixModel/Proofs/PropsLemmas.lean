import NixModel.Property
import NixModel.Proofs.AssocList
/-
  The section's property container seen through `SecSt.find` and `writable`, which is all the theorems of Props/C14.lean
  speak of.  `Upd` says that one name has been given a new content; `put`, `onProp` and appending are instances.
-/
namespace Nix.PV

variable {V D : Type}

theorem put_writable (s : SecSt V D) (name : String) (p : PropSt V D) : (s.put name p).writable = s.writable := rfl

def Upd (s : SecSt V D) (name : String) (o : Option (PropSt V D)) (s' : SecSt V D) : Prop :=
  s'.writable = s.writable ∧ ∀ m, s'.find m = if m = name then o else s.find m

theorem Upd.trans {s s1 s2 : SecSt V D} {name : String} {o o' : Option (PropSt V D)} (h1 : Upd s name o s1)
    (h2 : Upd s1 name o' s2) : Upd s name o' s2 :=
  ⟨h2.1.trans h1.1, fun m => by rw [h2.2 m]; split; rfl; rw [h1.2 m, if_neg ‹_›]⟩

theorem Upd.same {s s' : SecSt V D} {name : String} (h : Upd s name (s.find name) s') :
    s'.writable = s.writable ∧ ∀ n, s'.find n = s.find n :=
  ⟨h.1, fun n => by rw [h.2 n]; split; subst ‹n = name›; rfl; rfl⟩

theorem Upd.of_props {s s' : SecSt V D} (name : String) (hp : s'.props = s.props) (hw : s'.writable = s.writable) :
    Upd s name (s.find name) s' :=
  ⟨hw, fun m => by unfold SecSt.find; rw [hp]; split; subst ‹m = name›; rfl; rfl⟩

theorem Upd.refl (s : SecSt V D) (name : String) : Upd s name (s.find name) s := Upd.of_props name rfl rfl

theorem put_upd (s : SecSt V D) (name : String) (p : PropSt V D) : Upd s name ((s.find name).map fun _ => p) (s.put name p) :=
  ⟨rfl, fun m => lookup_map_replace id rfl s.props p m⟩

theorem onProp_upd (s : SecSt V D) (name : String) (f : PropSt V D → PropSt V D × Option Err) :
    Upd s name ((s.find name).map fun p => (f p).1) (s.onProp name f).1 := by
  unfold SecSt.onProp
  cases h : s.find name with
  | none => exact (h ▸ Upd.refl s name : Upd s name none s)
  | some p => have := put_upd s name (f p).1; rwa [h] at this

theorem onProp_err (s : SecSt V D) (name : String) (f : PropSt V D → PropSt V D × Option Err) :
    (s.onProp name f).2 = match s.find name with | none => some .uninitializedEntity | some p => (f p).2 := by
  unfold SecSt.onProp
  cases h : s.find name <;> simp

theorem append_upd (s : SecSt V D) (name : String) (q : PropSt V D) (g : Bool) (hnew : s.find name = none) :
    Upd s name (some q) { s with grp := g, props := s.props ++ [(name, q)] } :=
  ⟨rfl, lookup_append_new q hnew⟩

end Nix.PV
