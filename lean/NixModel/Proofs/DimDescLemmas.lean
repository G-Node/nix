import NixModel.Spec.C13
/-
  While the link names of the `dimensions` group are k, k+1, …, lookup and update by name (`findName`, `updName`) are lookup
  and update by position, and the deletion loop removes every link.
-/
namespace Nix.C13
open Nix Nix.DimDesc

variable {α : Type}

def GapFree (a : Arr α) : Prop := a.names = List.range' 1 a.count

theorem count_eq_length_names (a : Arr α) : a.count = a.names.length := (List.length_map _).symm

theorem findName_name {i : Nat} {g : Grp α} : ∀ {l : List (Grp α)}, findName i l = some g → g.name = i ∧ g ∈ l
  | [], h => by simp [findName] at h
  | x :: rest, h => by
    unfold findName at h
    split at h
    · next hx => cases h; exact ⟨hx, List.mem_cons_self⟩
    · have := findName_name h; exact ⟨this.1, List.mem_cons_of_mem _ this.2⟩

theorem findName_range' (i : Nat) : ∀ (l : List (Grp α)) (k : Nat), l.map (·.name) = List.range' k l.length →
    findName i l = if k ≤ i then l[i - k]? else none
  | [], k, _ => by simp [findName]
  | g :: rest, k, h => by
    simp only [List.map_cons, List.length_cons, List.range'_succ, List.cons.injEq] at h
    unfold findName
    by_cases hg : g.name = i
    · simp [hg, ← h.1]
    · have ih := findName_range' i rest (k + 1) h.2
      rw [if_neg hg, ih]
      by_cases hk : k ≤ i
      · have hk1 : k + 1 ≤ i := by omega
        have : i - k = (i - (k + 1)) + 1 := by omega
        simp [hk, hk1, this]
      · have hk1 : ¬ k + 1 ≤ i := by omega
        simp [hk, hk1]

theorem lookup_gapfree {a : Arr α} (h : GapFree a) (i : Nat) : a.lookup i = if 1 ≤ i then a.dims[i - 1]? else none :=
  findName_range' i a.dims 1 h

theorem name_lt_of_range' {l : List (Grp α)} {k : Nat} (h : l.map (·.name) = List.range' k l.length) {g : Grp α} (hg : g ∈ l) :
    k ≤ g.name ∧ g.name < k + l.length := by
  have : g.name ∈ l.map (·.name) := List.mem_map_of_mem hg
  rw [h, List.mem_range'_1] at this
  exact this

theorem updName_names (i : Nat) (f : Desc α → Desc α) : ∀ l : List (Grp α), (updName i f l).map (·.name) = l.map (·.name)
  | [] => rfl
  | g :: rest => by
    unfold updName
    split
    · simp
    · simp [updName_names i f rest]

theorem updName_range' (i : Nat) (f : Desc α → Desc α) : ∀ (l : List (Grp α)) (k : Nat), l.map (·.name) = List.range' k l.length →
    (updName i f l).map (·.d) = if k ≤ i then (l.map (·.d)).modify (i - k) f else l.map (·.d)
  | [], k, _ => by simp [updName]
  | g :: rest, k, h => by
    simp only [List.map_cons, List.length_cons, List.range'_succ, List.cons.injEq] at h
    unfold updName
    by_cases hg : g.name = i
    · have : k ≤ i := by omega
      have h0 : i - k = 0 := by omega
      simp [hg, this, h0]
    · have ih := updName_range' i f rest (k + 1) h.2
      rw [if_neg hg]
      simp only [List.map_cons, ih]
      by_cases hk : k ≤ i
      · have hk1 : k + 1 ≤ i := by omega
        have : i - k = (i - (k + 1)) + 1 := by omega
        simp [hk, hk1, this]
      · have hk1 : ¬ k + 1 ≤ i := by omega
        simp [hk, hk1]

theorem deleteLoop_eq : ∀ (n : Nat) (l : List (Grp α)), deleteLoop n l = l.filter (fun g => g.name = 0 ∨ n < g.name)
  | 0, l => by
    simp only [deleteLoop]
    rw [eq_comm, List.filter_eq_self]
    intro g _; simp; omega
  | n + 1, l => by
    simp only [deleteLoop]
    rw [deleteLoop_eq n, List.filter_filter]
    congr 1
    funext g
    rw [Bool.eq_iff_iff]
    simp only [ne_eq, decide_not, Bool.and_eq_true, Bool.not_eq_true', decide_eq_false_iff_not, decide_eq_true_eq]
    omega

theorem deleteLoop_gapfree {l : List (Grp α)} (h : l.map (·.name) = List.range' 1 l.length) : deleteLoop l.length l = [] := by
  rw [deleteLoop_eq, List.filter_eq_nil_iff]
  intro g hg
  have := name_lt_of_range' h hg
  simp; omega

/-- what `createDimensionGroup` keeps for an ARBITRARY index argument: the link names are 1..n in some order -/
def GapFreeSet (a : Arr α) : Prop := a.names.Perm (List.range' 1 a.count)

end Nix.C13
