import NixModel.Entities
import NixModel.Proofs.StoreFrames
/-
  What the front-end checks of the entity layer leave known, and what the new file links.
-/
namespace Nix.St
open Store

theorem checkName_ok {n : String} (h : checkName n = .ok ()) : n.isEmpty = false ∧ nameCheck n = true := by
  unfold checkName at h
  split at h <;> simp_all

theorem checkNameAndType_ok {n t : String} (h : checkNameAndType n t = .ok ()) :
    n.isEmpty = false ∧ nameCheck n = true ∧ tokEmpty t = false := by
  unfold checkNameAndType at h
  split at h
  · simp at h
  · rename_i hc
    have := checkName_ok hc
    split at h <;> simp_all

theorem initNamed_ok (s : Store) (g : ObjId) (id type name created : String) (hn : name.isEmpty = false) (ht : tokEmpty type = false) :
    initNamed s g id type name created =
      (((((s.setAttr g "entity_id" id).setAttr g "created_at" created).setAttr g "type" type).setAttr g "name" name), .ok ()) := by
  unfold initNamed; simp [hn, ht]

theorem linksOf_newFile (id created format version : String) (o : ObjId) :
    (newFile id created format version).linksOf o = if o = 0 then [("metadata", metadataGrp), ("data", dataGrp)] else [] := by
  match o with
  | 0 => rfl
  | 1 => rfl
  | 2 => rfl
  | n + 3 => rfl

theorem isGroupObj_newFile (id created format version : String) (o : ObjId) (ho : o < 3) :
    (newFile id created format version).isGroupObj o = true := by
  match o, ho with
  | 0, _ => rfl
  | 1, _ => rfl
  | 2, _ => rfl

end Nix.St
