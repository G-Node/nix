import NixModel.Search
import NixModel.Spec.C20
/-
  Helper lemmas for C20: the queue search with depth counters lists the level order (`bfsQ_eq_levels`); the level order
  against all nodes of a forest (`levels_level_perm`) and against its height; what every search inherits from that.
-/
namespace Nix.C20
open Nix.Search Nix.Search.Tree

variable {α : Type}

theorem flatMap_perm {β γ : Type} {l : List β} {g h : β → List γ} (H : ∀ x ∈ l, (g x).Perm (h x)) :
    (l.flatMap g).Perm (l.flatMap h) := by
  induction l with
  | nil => exact .refl _
  | cons x xs ih =>
    rw [List.flatMap_cons, List.flatMap_cons]
    exact (H x List.mem_cons_self).append (ih fun y hy => H y (List.mem_cons_of_mem _ hy))

/-- induction over a forest: the children of the first tree, then the other trees (`Tree` is a nested inductive type:
    the structural functions on it come in pairs, and so does their induction principle) -/
theorem forest_induct {P : List (Tree α) → Prop} (nil : P []) (cons : ∀ t ts, P t.children → P ts → P (t :: ts))
    (ts : List (Tree α)) : P ts :=
  nodesL.induct (fun t => P t.children) P (fun _ _ h => h) nil cons ts

theorem bfsQ_nil (f : Tree α → Bool) (maxd : Nat) : bfsQ f maxd [] = [] := by simp [bfsQ]

/-- consuming a front part `q` of the queue yields its accepted nodes; what its entries leave behind is queued behind the
    rest `r` -/
theorem bfsQ_append (f : Tree α → Bool) (maxd : Nat) (q r : List (Tree α × Nat)) :
    bfsQ f maxd (q ++ r) = (q.map (·.1)).filter f ++
      bfsQ f maxd (r ++ q.flatMap fun p => if p.2 < maxd then tag (p.2 + 1) p.1.children else []) := by
  induction q generalizing r with
  | nil => simp
  | cons p q ih =>
    rw [List.cons_append, bfsQ, List.append_assoc, ih]
    by_cases hf : f p.1 <;> simp [hf, tag]

theorem bfsQ_tag (f : Tree α → Bool) (maxd d : Nat) (ts : List (Tree α)) :
    bfsQ f maxd (tag d ts)
      = ts.filter f ++ bfsQ f maxd (if d < maxd then tag (d + 1) (ts.flatMap children) else []) := by
  have e : ts.flatMap (fun _ => ([] : List (Tree α × Nat))) = [] := List.flatMap_eq_nil_iff.2 fun _ _ => rfl
  rw [← List.append_nil (tag d ts), bfsQ_append]
  by_cases hd : d < maxd <;> simp [tag, hd, e, List.flatMap_map, List.map_flatMap, Function.comp_def]

theorem bfsQ_eq_levels (f : Tree α → Bool) (maxd : Nat) (k : Nat) : ∀ (d : Nat) (ts : List (Tree α)), d + k = maxd →
    bfsQ f maxd (tag d ts) = (levels (k + 1) ts).filter f := by
  induction k with
  | zero => intro d ts hd; rw [bfsQ_tag, if_neg (by omega), bfsQ_nil]; simp [levels]
  | succ k ih => intro d ts hd; rw [bfsQ_tag, if_pos (by omega), ih _ _ (by omega)]; simp [levels]

theorem levels_nil (n : Nat) : levels n ([] : List (Tree α)) = [] := by
  induction n with
  | zero => rfl
  | succ n ih => simp [levels, ih]

theorem level_succ_right (k : Nat) (ts : List (Tree α)) : level (k + 1) ts = (level k ts).flatMap children := by
  induction k generalizing ts with
  | zero => rfl
  | succ k ih => rw [level, ih]; rfl

theorem levels_add (d k : Nat) (ts : List (Tree α)) : levels (d + k) ts = levels d ts ++ levels k (level d ts) := by
  induction d generalizing ts with
  | zero => simp [levels, level]
  | succ d ih => rw [Nat.add_right_comm, levels, ih, levels, level, List.append_assoc]

theorem levels_succ_right (n : Nat) (ts : List (Tree α)) : levels (n + 1) ts = levels n ts ++ level n ts := by
  rw [levels_add n 1]; simp [levels]

theorem nodesL_cons (t : Tree α) (ts : List (Tree α)) : nodesL (t :: ts) = t :: (nodesL t.children ++ nodesL ts) := by
  cases t; simp [nodesL, nodes, children]

theorem nodesL_append (a b : List (Tree α)) : nodesL (a ++ b) = nodesL a ++ nodesL b := by
  induction a with
  | nil => simp [nodesL]
  | cons t ts ih => simp [nodesL, ih]

theorem nodesL_perm_step (ts : List (Tree α)) : (nodesL ts).Perm (ts ++ nodesL (ts.flatMap children)) := by
  induction ts with
  | nil => simp [nodesL]
  | cons t ts ih =>
    rw [nodesL_cons, List.flatMap_cons, nodesL_append, List.cons_append]
    exact ((ih.append_left _).trans (List.perm_append_comm_assoc ..)).cons _

theorem levels_level_perm (n : Nat) (ts : List (Tree α)) :
    (levels n ts ++ nodesL (level n ts)).Perm (nodesL ts) := by
  induction n generalizing ts with
  | zero => simp [levels, level]
  | succ n ih =>
    rw [levels, level, List.append_assoc]
    exact (List.Perm.append_left ts (ih (ts.flatMap children))).trans (nodesL_perm_step ts).symm

theorem mem_levels {n : Nat} {ts : List (Tree α)} {x : Tree α} (h : x ∈ levels n ts) : x ∈ nodesL ts :=
  (levels_level_perm n ts).mem_iff.1 (List.mem_append_left _ h)

theorem mem_nodesL_self {t : Tree α} {ts : List (Tree α)} (h : t ∈ ts) : t ∈ nodesL ts :=
  mem_levels (n := 1) (by simpa [levels] using h)

theorem mem_level {j : Nat} {ts : List (Tree α)} {x : Tree α} (h : x ∈ level j ts) : x ∈ nodesL ts :=
  mem_levels (n := j + 1) (by rw [levels_succ_right]; exact List.mem_append_right _ h)

theorem height_eq (t : Tree α) : height t = 1 + heightL t.children := by cases t; simp [height, children]

theorem heightL_append (a b : List (Tree α)) : heightL (a ++ b) = max (heightL a) (heightL b) := by
  induction a with
  | nil => simp [heightL]
  | cons t ts ih => simp [heightL, ih, Nat.max_assoc]

theorem heightL_children (ts : List (Tree α)) : heightL (ts.flatMap children) = heightL ts - 1 := by
  induction ts with
  | nil => simp [heightL]
  | cons t ts ih =>
    rw [List.flatMap_cons, heightL_append, ih]
    simp only [heightL, height_eq]
    omega

theorem level_eq_nil_of_height {n : Nat} {ts : List (Tree α)} (h : heightL ts ≤ n) : level n ts = [] := by
  induction n generalizing ts with
  | zero =>
    cases ts with
    | nil => rfl
    | cons t ts => simp [heightL, height_eq] at h
  | succ n ih =>
    rw [level]
    apply ih
    rw [heightL_children]; omega

theorem level_nil (k : Nat) : level k ([] : List (Tree α)) = [] := level_eq_nil_of_height (Nat.zero_le k)

theorem levels_perm_nodes {n : Nat} {ts : List (Tree α)} (h : heightL ts ≤ n) : (levels n ts).Perm (nodesL ts) := by
  have := levels_level_perm n ts
  rw [level_eq_nil_of_height h] at this
  simpa [nodesL] using this

theorem levels_beyond_height {d d' : Nat} {ts : List (Tree α)} (h : heightL ts ≤ d) (h' : d ≤ d') :
    levels d' ts = levels d ts := by
  obtain ⟨k, rfl⟩ : ∃ k, d' = d + k := ⟨d' - d, by omega⟩
  rw [levels_add, level_eq_nil_of_height h, levels_nil, List.append_nil]

theorem levels_append_perm (n : Nat) (a b : List (Tree α)) : (levels n (a ++ b)).Perm (levels n a ++ levels n b) := by
  induction n generalizing a b with
  | zero => simp [levels]
  | succ n ih =>
    simp only [levels, List.flatMap_append, List.append_assoc]
    exact ((ih ..).append_left b |>.trans (List.perm_append_comm_assoc ..)).append_left a

theorem levels_perRoot_perm (n : Nat) (roots : List (Tree α)) :
    (roots.flatMap fun r => levels n [r]).Perm (levels n roots) := by
  induction roots with
  | nil => simp [levels_nil]
  | cons r rs ih => exact (ih.append_left _).trans (levels_append_perm n [r] rs).symm

theorem perRoot_beyond_height (f : Tree α → Bool) {d d' : Nat} {roots : List (Tree α)} (h : heightL roots ≤ d) (h' : d ≤ d') :
    (roots.flatMap fun r => (levels d' [r]).filter f) = roots.flatMap fun r => (levels d [r]).filter f := by
  rw [List.flatMap_def, List.flatMap_def]
  refine congrArg _ (List.map_congr_left fun r hr => ?_)
  obtain ⟨a, b, rfl⟩ := List.append_of_mem hr
  rw [levels_beyond_height (by simp only [heightL_append, heightL] at h ⊢; omega) h']

/-! What every search inherits from the level order.  `S` is the answer of a search over the forest `ts` with filter `f`
    and `n` generations, as a multiset: all four searches (one section, one source, the file, a block) are instances. -/
section search
variable {f : Tree α → Bool} {n : Nat} {ts S : List (Tree α)} (hS : S.Perm ((levels n ts).filter f))
include hS

theorem search_sound {x : Tree α} (h : x ∈ S) : x ∈ nodesL ts ∧ f x = true :=
  have := List.mem_filter.1 (hS.mem_iff.1 h)
  ⟨mem_levels this.1, this.2⟩

theorem search_whole (h : heightL ts ≤ n) : S.Perm ((nodesL ts).filter f) :=
  hS.trans ((levels_perm_nodes h).filter f)

theorem search_head (h : heightL ts ≤ n) {x : Tree α} (hx : x ∈ nodesL ts) (hf : f x = true) : ∃ y, S.head? = some y := by
  have : x ∈ S := (search_whole hS h).mem_iff.2 (List.mem_filter.2 ⟨hx, hf⟩)
  cases S with
  | nil => cases this
  | cons y _ => exact ⟨y, rfl⟩

theorem search_nodup {δ : Type} (k : Tree α → δ) (hnd : ((nodesL ts).map k).Nodup) : (S.map k).Nodup := by
  refine ((hS.map k).nodup_iff).2 (List.Nodup.sublist (List.filter_sublist.map k) ?_)
  have := ((levels_level_perm n ts).map k).nodup_iff.2 hnd
  rw [List.map_append, List.nodup_append] at this
  exact this.1
end search

end Nix.C20
