import NixModel.Proofs.IndexSound
/-
  The set / data-frame kernel: coordinates are the integers `(double) i`.  `ceil` and `floor` give the cuts `k` of the unbounded axis
  (`rawCountIndex_ofCuts`); clipping against the count takes them to `min k n`, the cuts of the bounded one (`clipIndex_ofCuts`,
  `clip_isCut`).  `LawfulRounding` lists exactly what is used about `floor`, `ceil`, `round`, `(double)n` and
  `static_cast<ndsize_t>` — true of IEEE doubles below 2^53 (±0 identified) and of the exact instance `Int` (Props/C07.lean).
-/
open Std
namespace Nix.C07
open Nix Scalar

class LawfulRounding (α : Type) [Scalar α] : Prop where
  ofNat_zero : (ofNat 0 : α) = zero
  ofNat_strictMono : ∀ i j : Nat, i < j → (ofNat i : α) < ofNat j
  toNat_ofNat : ∀ k : Nat, toNat (ofNat k : α) = k
  floor_spec : ∀ p : α, ¬ p < zero → ofNat (toNat (floor p)) = floor p ∧ floor p ≤ p ∧ p < ofNat (toNat (floor p) + 1)
  ceil_neg : ∀ p : α, ceil p < zero → p < zero
  /-- `p` itself may be below zero (above −1): its ceiling is then the coordinate 0 -/
  ceil_spec : ∀ p : α, ¬ ceil p < zero → ofNat (toNat (ceil p)) = ceil p ∧ p ≤ ceil p ∧
      (1 ≤ toNat (ceil p) → ofNat (toNat (ceil p) - 1) < p)
  round_spec : ∀ p : α, ¬ p < zero → (beq (round p) p = true ↔ ∃ k : Nat, ofNat k = p) ∧
      (beq (round p) p = true → ofNat (toNat (round p)) = p)

section
variable {α : Type} [Scalar α]

theorem countAxis_coord (n i : Nat) : (countAxis (α := α) n).coord i = ofNat i := rfl
theorem countAxis_valid (n i : Nat) : (countAxis (α := α) n).valid i ↔ (n = 0 ∨ i < n) := by
  unfold countAxis Axis.valid
  by_cases h : n = 0 <;> simp [h]

theorem getCountIndex_of_lt (p : α) (count : Nat) (m : PositionMatch) (hp : p < ofNat indexLimit) :
    getCountIndex p count m = clipIndex count m (rawCountIndex p m) := by
  unfold getCountIndex
  by_cases h1 : (p < zero && !m.isGreater) = true
  · rw [if_pos h1]
    have : rawCountIndex p m = none := by unfold rawCountIndex; rw [if_pos h1]
    rw [this]; rfl
  · rw [if_neg h1]
    have : (!(decide (p < ofNat indexLimit))) = false := by simp [hp]
    rw [this]; rfl

theorem clipIndex_ofCuts (n : Nat) (hn : 0 < n) (k k' : Nat) (m : PositionMatch) :
    clipIndex n m ((countAxis (α := α) 0).ofCuts k k' m) = (countAxis (α := α) n).ofCuts (min k n) (min k' n) m := by
  have hv : ∀ i, (countAxis (α := α) 0).valid i = True := fun _ => rfl
  have hvn : ∀ i, (countAxis (α := α) n).valid i ↔ i < n := fun i => by rw [countAxis_valid]; omega
  -- clipping the answer for the unbounded axis to `n` entries is the answer for the cuts `min k n`, `min k' n`: both sides are
  -- if-ladders over comparisons of `k`, `k'` with `n`; rule by rule and branch by branch they agree by arithmetic
  cases m <;> simp only [Axis.ofCuts, hv, hvn, if_true] <;> repeat' split
  all_goals simp only [clipIndex, PositionMatch.isLess, hn, decide_true, Bool.true_and, decide_eq_true_eq] <;> (try split) <;> (try simp) <;> omega

variable [LawfulRounding α]

theorem countAxis_strictMono (n : Nat) : (countAxis (α := α) n).StrictMono := by
  intro i j _ hij; exact LawfulRounding.ofNat_strictMono i j hij

theorem toNat_zero : toNat (zero : α) = 0 := by
  rw [← LawfulRounding.ofNat_zero (α := α), LawfulRounding.toNat_ofNat]

end

variable {α : Type} [Scalar α] [IsLinearOrder α] [LawfulOrderLT α] [LawfulScalarEq α] [LawfulRounding α]

set_option linter.unusedSectionVars false in
theorem countAxis_len (n : Nat) : (countAxis (α := α) n).len = if n = 0 then none else some n := rfl

omit [LawfulScalarEq α] in
theorem ceil_isCut (p : α) (hc : ¬ ceil p < zero) : (countAxis 0).IsCut (· < p) (toNat (ceil p)) := by
  obtain ⟨h1, h2, h3⟩ := LawfulRounding.ceil_spec p hc
  exact ⟨(Nat.eq_zero_or_pos _).imp_right fun h => ⟨trivial, h3 h⟩, fun _ => Std.not_lt.2 (by rw [countAxis_coord, h1]; exact h2)⟩

omit [LawfulScalarEq α] in
theorem floor_isCut (p : α) (hp : ¬ p < zero) : (countAxis 0).IsCut (· ≤ p) (toNat (floor p) + 1) := by
  obtain ⟨h1, h2, h3⟩ := LawfulRounding.floor_spec p hp
  exact ⟨.inr ⟨trivial, by show ofNat _ ≤ p; rw [Nat.add_sub_cancel, h1]; exact h2⟩, fun _ => Std.not_le.2 h3⟩

theorem rawCountIndex_ofCuts (p : α) (m : PositionMatch) :
    ∃ k k', (countAxis (α := α) 0).IsCut (· < p) k ∧ (countAxis (α := α) 0).IsCut (· ≤ p) k' ∧
      rawCountIndex p m = (countAxis (α := α) 0).ofCuts k k' m := by
  have hm := countAxis_strictMono (α := α) 0
  have hv : ∀ i, (countAxis (α := α) 0).valid i = True := fun _ => rfl
  have hz := LawfulRounding.ofNat_zero (α := α)
  have hbt := LawfulScalarEq.beq_iff (α := α)
  have hbf : ∀ {x y : α}, x ≠ y → beq x y = false := (beq_false_iff _ _).2
  by_cases hneg : p < zero
  · -- below the axis both cuts are 0; the Greater rules answer 0: a ceiling that is not negative is zero
    have h0 : p < (countAxis 0).coord 0 := by rw [countAxis_coord, hz]; exact hneg
    have htmp : (if ceil p < zero then zero else ceil p) = zero := by
      split
      · rfl
      · rename_i hcz
        obtain ⟨h1, _, h3⟩ := LawfulRounding.ceil_spec p hcz
        have : toNat (ceil p) = 0 := Nat.eq_zero_of_not_pos fun h =>
          Std.lt_irrefl (Std.lt_of_lt_of_le (Std.lt_trans (h3 h) h0) ((countAxis 0).mono_le hm trivial (Nat.zero_le _)))
        rw [← h1, this, hz]
    refine ⟨0, 0, ⟨.inl rfl, fun _ => Std.not_lt.2 (Std.le_of_lt h0)⟩, ⟨.inl rfl, fun _ => Std.not_le.2 h0⟩, ?_⟩
    cases m <;> simp [rawCountIndex, hneg, PositionMatch.isGreater, htmp, toNat_zero, hbf fun h : zero = p => Std.lt_irrefl (h ▸ hneg), Axis.ofCuts, hv]
  · have hcz : ¬ ceil p < zero := fun h => hneg (LawfulRounding.ceil_neg p h)
    have c := ceil_isCut p hcz
    have c' := floor_isCut p hneg
    have hc := (LawfulRounding.ceil_spec p hcz).1
    have hf := (LawfulRounding.floor_spec p hneg).1
    obtain ⟨r1, r2⟩ := LawfulRounding.round_spec p hneg
    cases m
    case greaterOrEqual | lessOrEqual =>
      exact ⟨_, _, c, c', by simp [rawCountIndex, hneg, hcz, PositionMatch.isGreater, PositionMatch.isLess, Axis.ofCuts, hv]⟩
    case greater =>
      by_cases he : ceil p = p
      · exact ⟨_, _, c, .le_succ hm trivial (hc.trans he),
          by simp [rawCountIndex, hneg, hcz, PositionMatch.isGreater, Axis.ofCuts, hv, (hbt _ _).2 he]⟩
      · exact ⟨_, _, c, c.le_same fun _ h => he (hc.symm.trans h),
          by simp [rawCountIndex, hneg, hcz, PositionMatch.isGreater, Axis.ofCuts, hv, hbf he]⟩
    case less =>
      by_cases he : floor p = p
      · exact ⟨_, _, .lt_at hm trivial (hf.trans he), c',
          by simp [rawCountIndex, hneg, PositionMatch.isGreater, PositionMatch.isLess, Axis.ofCuts, (hbt _ _).2 he]⟩
      · exact ⟨_, _, c'.lt_same fun _ h => he (hf.symm.trans h), c',
          by simp [rawCountIndex, hneg, PositionMatch.isGreater, PositionMatch.isLess, Axis.ofCuts, hbf he]⟩
    case equal =>
      by_cases he : beq (round p) p = true
      · exact ⟨_, _, .lt_at hm trivial (r2 he), .le_succ hm trivial (r2 he),
          by simp [rawCountIndex, hneg, PositionMatch.isGreater, PositionMatch.isLess, Axis.ofCuts, he]⟩
      · exact ⟨_, _, c, c.le_same fun _ h => he (r1.2 ⟨_, h⟩),
          by simp [rawCountIndex, hneg, PositionMatch.isGreater, PositionMatch.isLess, Axis.ofCuts, he]⟩

omit [LawfulScalarEq α] in
theorem clip_isCut {P : α → Prop} (hP : Closed P) {k : Nat} (n : Nat) (hn : 0 < n) (c : (countAxis 0).IsCut P k) :
    (countAxis n).IsCut P (min k n) := by
  have hv := countAxis_valid (α := α) n
  refine ⟨?_, fun h => ?_⟩
  · rcases Nat.eq_zero_or_pos k with h0 | hk
    · exact .inl (by omega)
    · refine .inr ⟨(hv _).2 (.inr (by omega)), ?_⟩
      exact hP _ _ ((countAxis 0).mono_le (countAxis_strictMono 0) trivial (by omega)) (c.1.resolve_left (by omega)).2
  · have : min k n = k := by have := (hv _).1 h; omega
    rw [this]; exact c.2 trivial

set_option linter.unusedSectionVars false in
/-- at and beyond 2^64 (and for a position that is not a number): the last index for Less / LessOrEqual on a bounded dimension, else none -/
theorem count_index_beyond (p : α) (count : Nat) (m : PositionMatch) (hp : ¬ p < ofNat indexLimit) (h0 : ¬ p < zero) :
    getCountIndex p count m = if beq p p && decide (0 < count) && m.isLess then some (count - 1) else none := by
  unfold getCountIndex
  have h1 : (p < zero && !m.isGreater) = false := by simp [h0]
  have h2 : (!(decide (p < ofNat indexLimit))) = true := by simp [hp]
  simp only [h1, h2]; rfl

end Nix.C07
