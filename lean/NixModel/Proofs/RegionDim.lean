import NixModel.Spec.C05
import NixModel.Props.C07
/-
  From start/end index pairs to regions.  Every retrieval step asks `dimension.indexOf(start, end, match)` and, when that gives no pair,
  falls back on scalar `positionToIndex(start, unit, GreaterOrEqual)`.  On a well-formed descriptor the pair `(i, j)`, read as the block
  `(i, 1 + (j - i))`, holds exactly the indices whose coordinates lie in the interval (`pair_denotes`), and the fall-back fails only on
  the units and answers the first index at or after the start (`point_spec`); the steps of Tag, MultiTag and `dataSlice`
  (`dimOffsetCount_spec`, `mtagDim_spec`, `sliceDim_eq`) are cases on these two answers.
-/
open Std
namespace Nix.C05
open Nix Scalar Nix.C07

section
variable {α : Type} [Scalar α]

theorem ge_index_first (a : Axis α) (s : α) (o : Nat)
    (h : IsIndex a .greaterOrEqual s (some o)) : isFirstAtOrAfter a s o :=
  ⟨h.1, h.2.1, fun j hj hsj => Nat.not_le.2 hj (h.2.2 j (a.valid_of_le h.1 (Nat.le_of_lt hj)) hsj)⟩

theorem scaleScalar_err (d : DimDesc α) (unit : String) (x : Err) (h : d.scaleScalar unit = .error x) :
    x = .incompatibleDimensions := by
  -- every leaf of `scaleScalar` is an `.ok` or this error
  unfold DimDesc.scaleScalar at h
  repeat' split at h
  all_goals cases h
  all_goals rfl

/-- dataSlice: the per-dimension step is the Tag step guarded by start ≤ end, with "point" read as end == start -/
theorem sliceDim_eq (d : DimDesc α) (s e : α) (unit : String) (rm : RangeMatch) :
    sliceDim d s e unit rm = if e < s then .error .stdInvalidArgument else dimOffsetCount d s e (beq e s) unit rm := by
  unfold sliceDim dimOffsetCount
  split <;> rfl

end

variable {α : Type} [Scalar α] [IsLinearOrder α] [LawfulOrderLT α] [LawfulScalarEq α]

omit [LawfulScalarEq α] in
/-- a valid start/end pair (i, j) denotes exactly the indices whose coordinates lie in the interval -/
theorem pair_region (a : Axis α) (hm : a.StrictMono) (rm : RangeMatch) (s e : α) (i j : Nat)
    (h : IsPair a rm s e (some (i, j))) (k : Nat) : (i ≤ k ∧ k ≤ j) ↔ inRegion a rm s e k := by
  obtain ⟨_, ⟨_, hsi, hmin⟩, hj, _⟩ := h
  -- the end test is a property `P` that smaller coordinates inherit: `· ≤ e` or `· < e`
  have key : ∀ {P : α → Prop}, Closed P → (a.valid j ∧ P (a.coord j) ∧ ∀ k, a.valid k → P (a.coord k) → k ≤ j) →
      ((i ≤ k ∧ k ≤ j) ↔ a.valid k ∧ s ≤ a.coord k ∧ P (a.coord k)) := fun hP ⟨hvj, hje, hmax⟩ =>
    ⟨fun ⟨h1, h2⟩ =>
      have hvk := a.valid_of_le hvj h2
      ⟨hvk, Std.le_trans hsi (a.mono_le hm hvk h1), hP _ _ (a.mono_le hm hvj h2) hje⟩,
     fun ⟨hvk, h1, h2⟩ => ⟨hmin k hvk h1, hmax k hvk h2⟩⟩
  cases rm
  · exact key (closed_le e) hj
  · exact key (closed_lt e) hj

omit [LawfulScalarEq α] in
theorem pair_none_empty (a : Axis α) (rm : RangeMatch) (s e : α)
    (h : IsPair a rm s e none) (k : Nat) : ¬ inRegion a rm s e k := by
  intro ⟨hvk, h1, h2⟩
  rcases h with h | h | h | ⟨i, j, hi, hj, hji⟩
  · have hle : a.coord k ≤ e := by
      cases rm
      · exact h2
      · exact Std.le_of_lt h2
    exact Std.not_lt.2 (Std.le_trans h1 hle) h
  · exact h k hvk h1
  · cases rm <;> exact h k hvk h2
  · have := hi.2.2 k hvk h1
    have : k ≤ j := by cases rm <;> exact hj.2.2 k hvk h2
    omega

variable [LawfulRounding α]

/-- what the property assumes of a descriptor: strictly increasing coordinates -/
def DimWF : DimDesc α → Prop
  | .sampled si off _ => StrictMonoN (posAt si off) ∧ posAt si off 0 = off ∧ zero < si ∧ isFinite off = true
  | .range ticks _ => Sorted ticks
  | .set _ => True
  | .frame _ _ => True

/-- positions the kernels are specified for — sampled: finite, below coordinate number `fuelDefault` (2^62), index estimate below 2^53;
    set / data frame: below 2^64 (beyond it no index type holds the answer: `count_index_beyond`) -/
def InScope : DimDesc α → α → Prop
  | .sampled si off _, x => isFinite x = true ∧ x < posAt si off fuelDefault ∧ floor (div (sub x off) si) < ofNat 9007199254740992
  | .set _, x => x < ofNat indexLimit
  | .frame _ _, x => x < ofNat indexLimit
  | _, _ => True

omit [IsLinearOrder α] [LawfulOrderLT α] [LawfulScalarEq α] in
theorem axisOf_strictMono (d : DimDesc α) (h : DimWF d) : (axisOf d).StrictMono := by
  cases d with
  | sampled si off u => exact sampledAxis_strictMono si off h.1
  | range ticks u => exact rangeAxis_strictMono ticks h
  | set n | frame n _ => exact countAxis_strictMono n

theorem index_spec (d : DimDesc α) (h : DimWF d) (x : α) (hx : InScope d x) (m : PositionMatch) :
    IsIndex (axisOf d) m x (d.index x m) := by
  cases d with
  | sampled si off u =>
    obtain ⟨h1, h2, h3, h4⟩ := h
    exact sampled_index_spec fuelDefault x off si m h1 h2 h3 hx.1 h4 hx.2.1 hx.2.2
  | range ticks u => exact range_index_spec ticks h x m
  | set n | frame n _ => exact count_index_spec x n m hx

theorem pair_spec (d : DimDesc α) (h : DimWF d) (s e : α) (hs : InScope d s) (he : InScope d e) (rm : RangeMatch) :
    IsPair (axisOf d) rm s e (d.pair s e rm) := by
  cases d with
  | sampled si off u =>
    obtain ⟨h1, h2, h3, h4⟩ := h
    exact sampled_pair_spec fuelDefault off si s e rm h1 h2 h3 hs.1 he.1 h4 hs.2.1 he.2.1 hs.2.2 he.2.2
  | range ticks u => exact range_pair_spec ticks h s e rm
  | set n | frame n _ => exact count_pair_spec n s e rm hs he

theorem pair_denotes (d : DimDesc α) (h : DimWF d) (s e : α) (hs : InScope d s) (he : InScope d e) (rm : RangeMatch) :
    match d.pair s e rm with
    | some (i, j) => ∀ x, (i ≤ x ∧ x < i + (1 + (j - i))) ↔ inRegion (axisOf d) rm s e x
    | none => ∀ x, ¬ inRegion (axisOf d) rm s e x := by
  have hm := axisOf_strictMono d h
  have hpair := pair_spec d h s e hs he rm
  cases hpr : d.pair s e rm with
  | none => rw [hpr] at hpair; exact pair_none_empty (axisOf d) rm s e hpair
  | some ij =>
    obtain ⟨i, j⟩ := ij
    rw [hpr] at hpair
    intro x
    have hij : i ≤ j := hpair.2.2.2
    rw [← pair_region (axisOf d) hm rm s e i j hpair x]
    omega

theorem point_spec (d : DimDesc α) (hd : DimWF d) (pos : α) (unit : String)
    (hp : ∀ k', d.scaleScalar unit = .ok k' → InScope d (applyScale k' pos)) :
    match posToIndex d pos unit .greaterOrEqual with
    | .error x => x = .incompatibleDimensions
    | .ok (some o) => ∃ k', d.scaleScalar unit = .ok k' ∧ isFirstAtOrAfter (axisOf d) (applyScale k' pos) o
    | .ok none => ∃ k', d.scaleScalar unit = .ok k' ∧ ∀ i, (axisOf d).valid i → ¬ applyScale k' pos ≤ (axisOf d).coord i := by
  unfold posToIndex
  cases hsc : d.scaleScalar unit with
  | error x => exact scaleScalar_err d unit x hsc
  | ok k' =>
    have hidx := index_spec d hd _ (hp k' hsc) .greaterOrEqual
    dsimp only
    cases hi : d.index (applyScale k' pos) .greaterOrEqual with
    | none => rw [hi] at hidx; exact ⟨k', rfl, hidx⟩
    | some o => rw [hi] at hidx; exact ⟨k', rfl, ge_index_first (axisOf d) _ o hidx⟩

/-- The per-dimension step of Tag retrieval (`dimOffsetCount`): with `s`, `e` the start and end as
    converted to the dimension's unit and `p` the start as the scalar overload converts it,
    a successful step returns either exactly the indices whose coordinates lie in the interval, or —
    only when the extent is zero and the interval holds no coordinate — the first index at or after `p`;
    an OutOfBounds step means the interval holds no coordinate (and, for a zero extent, that no index lies
    at or after `p`). -/
theorem dimOffsetCount_spec (d : DimDesc α) (hd : DimWF d) (pos endPos : α) (z : Bool) (unit : String) (rm : RangeMatch)
    (k : Option α) (hk : d.scale unit = .ok k)
    (hs : InScope d (applyScale k pos)) (he : InScope d (applyScale k endPos))
    (hp : ∀ k', d.scaleScalar unit = .ok k' → InScope d (applyScale k' pos)) :
    match dimOffsetCount d pos endPos z unit rm with
    | .ok (o, c) =>
        (∀ i, (o ≤ i ∧ i < o + c) ↔ inRegion (axisOf d) rm (applyScale k pos) (applyScale k endPos) i) ∨
        (z = true ∧ c = 1 ∧ (∀ i, ¬ inRegion (axisOf d) rm (applyScale k pos) (applyScale k endPos) i) ∧
          ∃ k', d.scaleScalar unit = .ok k' ∧ isFirstAtOrAfter (axisOf d) (applyScale k' pos) o)
    | .error .outOfBounds =>
        (∀ i, ¬ inRegion (axisOf d) rm (applyScale k pos) (applyScale k endPos) i) ∧
        (z = false ∨ ∃ k', d.scaleScalar unit = .ok k' ∧ ∀ i, (axisOf d).valid i → ¬ applyScale k' pos ≤ (axisOf d).coord i)
    | .error _ => True := by
  have hpair := pair_denotes d hd _ _ hs he rm
  have hpt := point_spec d hd pos unit hp
  unfold dimOffsetCount rangeToIndex
  rw [hk]
  dsimp only
  cases hpr : d.pair (applyScale k pos) (applyScale k endPos) rm with
  | some ij => rw [hpr] at hpair; exact .inl hpair
  | none =>
    rw [hpr] at hpair
    dsimp only
    cases hpi : posToIndex d pos unit .greaterOrEqual with
    | error x => rw [hpi] at hpt; subst hpt; trivial
    | ok r =>
      rw [hpi] at hpt
      cases r with
      | none => exact ⟨hpair, .inr hpt⟩
      | some o =>
        cases z with
        | false => exact ⟨hpair, .inl rfl⟩
        | true => exact .inr ⟨rfl, rfl, hpair, hpt⟩

/-- from coordinate 0 to coordinate `n - 1`, inclusive, the region is exactly the indices below `n`: how a Tag pads the dimensions it
    does not specify and `dataSlice` fills in the bounds it was not given -/
theorem dimOffsetCount_full (d : DimDesc α) (hwf : DimWF d) (n : Nat) (hn : 1 ≤ n) (hcov : (axisOf d).valid (n - 1))
    (z : Bool) (unit : String) (hk : d.scale unit = .ok none)
    (hs : InScope d ((axisOf d).coord 0)) (he : InScope d ((axisOf d).coord (n - 1)))
    (hps : ∀ k', d.scaleScalar unit = .ok k' → InScope d (applyScale k' ((axisOf d).coord 0)))
    (o c : Nat) (h : dimOffsetCount d ((axisOf d).coord 0) ((axisOf d).coord (n - 1)) z unit .inclusive = .ok (o, c)) :
    ∀ x, (o ≤ x ∧ x < o + c) ↔ x < n := by
  have hm := axisOf_strictMono d hwf
  have hspec := dimOffsetCount_spec d hwf _ _ z unit .inclusive none hk hs he hps
  rw [h] at hspec
  simp only [applyScale] at hspec
  have hin : ∀ x, inRegion (axisOf d) .inclusive ((axisOf d).coord 0) ((axisOf d).coord (n - 1)) x ↔ x < n := fun x =>
    ⟨fun ⟨hv, _, h2⟩ => Nat.lt_of_not_le fun hnx => Std.not_le.2 (hm (n - 1) x hv (by omega)) h2,
     fun hx => have hv := (axisOf d).valid_of_le hcov (show x ≤ n - 1 by omega)
       ⟨hv, (axisOf d).mono_le hm hv (Nat.zero_le x), (axisOf d).mono_le hm hcov (by omega)⟩⟩
  rcases hspec with hreg | ⟨_, _, hempty, _⟩
  · intro x; rw [hreg x, hin x]
  · exact absurd ((hin 0).2 (by omega)) (hempty 0)

/-- MultiTag: a (position index, dimension) cell obeys the same rule as the Tag step, with "zero extent"
    read as end == start -/
theorem mtagDim_spec (d : DimDesc α) (hd : DimWF d) (pos endPos : α) (unit : String) (rm : RangeMatch)
    (k : Option α) (hk : d.scale unit = .ok k)
    (hs : InScope d (applyScale k pos)) (he : InScope d (applyScale k endPos))
    (hp : ∀ k', d.scaleScalar unit = .ok k' → InScope d (applyScale k' pos)) :
    match mtagDim d pos endPos unit rm with
    | .ok (o, c) =>
        (∀ i, (o ≤ i ∧ i < o + c) ↔ inRegion (axisOf d) rm (applyScale k pos) (applyScale k endPos) i) ∨
        (endPos = pos ∧ c = 1 ∧ (∀ i, ¬ inRegion (axisOf d) rm (applyScale k pos) (applyScale k endPos) i) ∧
          ∃ k', d.scaleScalar unit = .ok k' ∧ isFirstAtOrAfter (axisOf d) (applyScale k' pos) o)
    | .error .outOfBounds => ∀ i, ¬ inRegion (axisOf d) rm (applyScale k pos) (applyScale k endPos) i
    | .error _ => True := by
  have hpair := pair_denotes d hd _ _ hs he rm
  have hpt := point_spec d hd pos unit hp
  unfold mtagDim rangeToIndex
  rw [hk]
  dsimp only
  cases hpr : d.pair (applyScale k pos) (applyScale k endPos) rm with
  | some ij => rw [hpr] at hpair; exact .inl hpair
  | none =>
    rw [hpr] at hpair
    dsimp only
    by_cases hb : beq endPos pos = true
    · rw [if_pos hb]
      obtain rfl : endPos = pos := (LawfulScalarEq.beq_iff _ _).1 hb
      cases hpi : posToIndex d endPos unit .greaterOrEqual with
      | error x => rw [hpi] at hpt; subst hpt; trivial
      | ok r =>
        rw [hpi] at hpt
        cases r with
        | none => exact hpair
        | some o => exact .inr ⟨rfl, rfl, hpair, hpt⟩
    · rw [if_neg hb]; exact hpair

end Nix.C05
