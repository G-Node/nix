import NixModel.Proofs.Roles
import NixModel.Proofs.OpShapes
/-
  Every entry point of the store model keeps the schema invariant `WT`, with the roles of the objects it may create given by
  `Op.roleAfter`; the guard `Op.kinded` says that the object arguments have the role the C++ type of the front-end object
  guarantees (a `Block` wraps a block group, …).  Apart from the attribute setters each entry point is one of four shapes
  (Proofs/OpShapes.lean): a creator (`mk2` / `openGroupCreate`, then attributes), a replace-link setter (`relink`), an add-by-id
  (`linkById` after `openGroupCreate`), or it only removes links (`unlinkAll`, `unlink`).  Hence `WT` across every entry point
  (`apply_wt`) and every history (`run_wt`).
-/
namespace Nix.St
open Store

def Role.isEnt : Role → Bool
  | .ent _ => true
  | _ => false

theorem Role.eq_ent_of_isEnt {r : Role} (h : r.isEnt = true) : ∃ k, r = .ent k := by
  cases r <;> simp [Role.isEnt] at h
  exact ⟨_, rfl⟩

theorem WT.named {r : Store × ObjId} {ρ : ObjId → Role} (h : WT r.1 ρ) (id type name created : String) :
    WT (named r id type name created) ρ :=
  (((h.setAttr _ _ _).setAttr _ _ _).setAttr _ _ _).setAttr _ _ _

/-- a refusal leaves the old store, in which the objects that get a role in `ρ'` do not exist yet (`WT.congr`) -/
theorem WT.of_shape {α : Type} {s : Store} {ρ ρ' : ObjId → Role} (h : WT s ρ) (ha : Agree s ρ ρ') {G : Prop} {y r : Res α}
    (hs : Shape s G y r) (hy : G → WT y.1 ρ') : WT (unitRes r).1 ρ' :=
  unitRes_fst r ▸ hs.elim (P := (WT · ρ')) (h.congr ha) hy

theorem WT.relink {s : Store} {ρ : ObjId → Role} (h : WT s ρ) {g : ObjId} {f : String} {k : Kind} {target : Option ObjId}
    (he : (ρ g).isEnt = true) (hf : childRole (ρ g) f = some (.ent k))
    (ht : ∀ t, target = some t → t < s.objs.length ∧ ρ t = .ent k) : WT (relink s g f target).1 ρ := by
  cases target with
  | none => exact h
  | some t =>
    obtain ⟨ht, hρt⟩ := ht t rfl
    obtain ⟨k0, hk0⟩ := Role.eq_ent_of_isEnt he
    -- a cross link from one entity to another: `mono` asks nothing of it
    refine (h.removeGroup g f).addLink g f t (by rw [length_removeGroup]; exact ht) (by rw [hρt]; exact hf) ?_
      (fun hc => by rw [hk0, hρt] at hc; cases hc)
    by_cases hh : s.hasGroup g f = true
    · rw [Store.removeGroup, if_pos hh, child?, linksOf_unlink, if_pos rfl, lookup_filter_ne, if_pos rfl]
      exact .inl rfl
    · rw [Store.removeGroup, if_neg hh]
      exact h.free_of_not_hasGroup hf (by simp) (by simpa using hh)

theorem WT.linkById {s : Store} {ρ : ObjId → Role} (h : WT s ρ) {c : ObjId} {k : Kind} {nm : ObjId → String} {target : Option ObjId}
    (hc : ρ c = .lcont k) (ht : ∀ t, target = some t → t < s.objs.length ∧ ρ t = .ent k) : WT (linkById s c nm target).1 ρ := by
  cases target with
  | none => exact h
  | some t =>
    obtain ⟨ht, hρt⟩ := ht t rfl
    simp only [St.linkById]
    split
    · exact h
    · rename_i hob
      refine h.addLink c _ t ht (by rw [hc, hρt]; rfl) ?_ (fun hc' => by rw [hc, hρt] at hc'; cases hc')
      cases hn : (nm t).isEmpty with
      | true => exact .inr rfl
      | false => cases hch : s.child? c (nm t) with
        | none => exact .inl rfl
        | some x => simp [hasObject, hn, hch] at hob

theorem WT.mk2 {s : Store} {ρ : ObjId → Role} (h : WT s ρ) (par : ObjId) (cn n : String) (k : Kind)
    {r : Role} (hpar : par < s.objs.length ∧ ρ par = r) (hrc : childRole r cn = some (.cont k)) :
    WT (mk2 s par cn n).1 (upd (upd ρ (s.openGroupCreate par cn).2 (.cont k)) (mk2 s par cn n).2 (.ent k)) ∧
    Agree s ρ (upd (upd ρ (s.openGroupCreate par cn).2 (.cont k)) (mk2 s par cn n).2 (.ent k)) ∧
    upd (upd ρ (s.openGroupCreate par cn).2 (.cont k)) (mk2 s par cn n).2 (.ent k) (mk2 s par cn n).2 = .ent k := by
  obtain ⟨w1, a1, l1, x1, r1⟩ := h.openGroupCreate par cn (.cont k) hpar.1 (hpar.2 ▸ hrc) (by simp)
  obtain ⟨w2, a2, _, _, r2⟩ := w1.openGroupCreate (s.openGroupCreate par cn).2 n (.ent k) x1 (by rw [r1]; rfl) (by simp)
  exact ⟨w2, a1.trans a2 l1, r2⟩

def Op.roleAfter (s : Store) (ρ : ObjId → Role) : Op → (ObjId → Role)
  | .createBlock n .. => upd ρ (s.openGroupCreate dataGrp n).2 (.ent .B)
  | .createSection none n .. => upd ρ (s.openGroupCreate metadataGrp n).2 (.ent .S)
  | .createSection (some p) n .. =>
    upd (upd ρ (s.openGroupCreate p "sections").2 (.cont .S)) ((s.openGroupCreate p "sections").1.openGroupCreate (s.openGroupCreate p "sections").2 n).2 (.ent .S)
  | .createSubSource p n .. =>
    upd (upd ρ (s.openGroupCreate p "sources").2 (.cont .O)) ((s.openGroupCreate p "sources").1.openGroupCreate (s.openGroupCreate p "sources").2 n).2 (.ent .O)
  | .createGroup b n .. =>
    upd (upd ρ (s.openGroupCreate b "groups").2 (.cont .G)) ((s.openGroupCreate b "groups").1.openGroupCreate (s.openGroupCreate b "groups").2 n).2 (.ent .G)
  | .createSource b n .. =>
    upd (upd ρ (s.openGroupCreate b "sources").2 (.cont .O)) ((s.openGroupCreate b "sources").1.openGroupCreate (s.openGroupCreate b "sources").2 n).2 (.ent .O)
  | .createDataArray b n .. =>
    upd (upd ρ (s.openGroupCreate b "data_arrays").2 (.cont .A)) ((s.openGroupCreate b "data_arrays").1.openGroupCreate (s.openGroupCreate b "data_arrays").2 n).2 (.ent .A)
  | .createDataFrame b n .. =>
    upd (upd ρ (s.openGroupCreate b "data_frames").2 (.cont .D)) ((s.openGroupCreate b "data_frames").1.openGroupCreate (s.openGroupCreate b "data_frames").2 n).2 (.ent .D)
  | .createTag b n .. =>
    upd (upd ρ (s.openGroupCreate b "tags").2 (.cont .T)) ((s.openGroupCreate b "tags").1.openGroupCreate (s.openGroupCreate b "tags").2 n).2 (.ent .T)
  | .createMultiTag b n .. =>
    upd (upd ρ (s.openGroupCreate b "multi_tags").2 (.cont .M)) ((s.openGroupCreate b "multi_tags").1.openGroupCreate (s.openGroupCreate b "multi_tags").2 n).2 (.ent .M)
  | .createProperty sec .. => upd (upd ρ (s.openGroupCreate sec "properties").2 .pcont) (s.openGroupCreate sec "properties").1.objs.length .prop
  | .createFeature tag _ i .. =>
    upd (upd ρ (s.openGroupCreate tag "features").2 (.cont .F)) ((s.openGroupCreate tag "features").1.openGroupCreate (s.openGroupCreate tag "features").2 i).2 (.ent .F)
  | .addReference tag .. => upd ρ (s.openGroupCreate tag "references").2 (.lcont .A)
  | .addSource holder _ id => if id.isEmpty then ρ else upd ρ (s.openGroupCreate holder "sources").2 (.lcont .O)
  | .addMember grp _ k .. => upd ρ (s.openGroupCreate grp (groupContainer k)).2 (.lcont (gKind k))
  | _ => ρ

def Op.kinded (s : Store) (ρ : ObjId → Role) : Op → Prop
  | .createSection p .. => ∀ x, p = some x → x < s.objs.length ∧ ρ x = .ent .S
  | .createSubSource p .. => p < s.objs.length ∧ ρ p = .ent .O
  | .createGroup b .. => b < s.objs.length ∧ ρ b = .ent .B
  | .createSource b .. => b < s.objs.length ∧ ρ b = .ent .B
  | .createDataArray b .. => b < s.objs.length ∧ ρ b = .ent .B
  | .createDataFrame b .. => b < s.objs.length ∧ ρ b = .ent .B
  | .createTag b .. => b < s.objs.length ∧ ρ b = .ent .B
  | .createMultiTag b .. => b < s.objs.length ∧ ρ b = .ent .B
  | .createProperty sec .. => sec < s.objs.length ∧ ρ sec = .ent .S
  | .createFeature tag b .. => tag < s.objs.length ∧ (ρ tag = .ent .T ∨ ρ tag = .ent .M) ∧ b < s.objs.length ∧ ρ b = .ent .B
  | .setSectionLink holder f _ => (ρ holder).isEnt = true ∧ childRole (ρ holder) f = some (.ent .S)
  | .setArrayLink holder b f _ => (ρ holder).isEnt = true ∧ childRole (ρ holder) f = some (.ent .A) ∧ ρ b = .ent .B
  | .setExtents mt b _ => (ρ mt).isEnt = true ∧ childRole (ρ mt) "extents" = some (.ent .A) ∧ ρ b = .ent .B
  | .addReference tag b _ => tag < s.objs.length ∧ childRole (ρ tag) "references" = some (.lcont .A) ∧ b < s.objs.length ∧ ρ b = .ent .B
  | .addSource holder b _ => holder < s.objs.length ∧ childRole (ρ holder) "sources" = some (.lcont .O) ∧ b < s.objs.length ∧ ρ b = .ent .B
  | .addMember grp b k .. => grp < s.objs.length ∧ ρ grp = .ent .G ∧ b < s.objs.length ∧ ρ b = .ent .B ∧ bKind k = gKind k
  | _ => True

theorem WT.setArrayLink {s : Store} {ρ : ObjId → Role} (h : WT s ρ) {g b : ObjId} {f : String} (key : String)
    (he : (ρ g).isEnt = true) (hf : childRole (ρ g) f = some (.ent .A)) (hb : ρ b = .ent .B) : WT (setArrayLink s g b f key).1 ρ := by
  rw [setArrayLink_eq]
  exact h.relink he hf fun _ ht => h.blkFindKey hb ht

theorem WT.unlinkedOne {s s' : Store} {ρ : ObjId → Role} (h : WT s ρ) {a : ObjId} {cn : String} (hs : UnlinkedOne s a cn s') : WT s' ρ := by
  rcases hs with e | ⟨c, n, _, e⟩ <;> rw [e]
  · exact h
  · exact h.unlink c n

/-- EVERY entry point of the store model keeps the schema, the objects it may create taking the roles of `Op.roleAfter` -/
theorem apply_wt {s : Store} {ρ : ObjId → Role} (h : WT s ρ) (op : Op) (hk : op.kinded s ρ) :
    WT (op.apply s).1 (op.roleAfter s ρ) := by
  have top : ∀ g : ObjId, g < 3 → g < s.objs.length := fun g hg => Nat.lt_of_lt_of_le hg h.len
  cases op with
  | createBlock n t i c =>
    obtain ⟨w, a, _⟩ := h.openGroupCreate dataGrp n (.ent .B) (top _ (by decide)) (by rw [show ρ dataGrp = _ from h.r2]; rfl) (by simp)
    exact h.of_shape a (createBlock_shape s n t i c) fun _ => w.named i t n c
  | createSection p n t i c =>
    cases p with
    | none =>
      obtain ⟨w, a, _⟩ := h.openGroupCreate metadataGrp n (.ent .S) (top _ (by decide)) (by rw [show ρ metadataGrp = _ from h.r1]; rfl) (by simp)
      exact h.of_shape a (createSectionIn_none_shape s n t i c) fun _ => w.named i t n c
    | some p =>
      obtain ⟨w, a, _⟩ := h.mk2 p "sections" n .S (hk p rfl) rfl
      exact h.of_shape a (createSectionIn_some_shape s p n t i c) fun _ => w.named i t n c
  | createSubSource p n t i c =>
    obtain ⟨w, a, _⟩ := h.mk2 p "sources" n .O hk rfl
    exact h.of_shape a (createSourceIn_shape s p n t i c) fun _ => w.named i t n c
  | createGroup b n t i c =>
    obtain ⟨w, a, _⟩ := h.mk2 b "groups" n .G hk rfl
    exact h.of_shape a (createInBlock_shape s b "G" n t i c) fun _ => w.named i t n c
  | createSource b n t i c =>
    obtain ⟨w, a, _⟩ := h.mk2 b "sources" n .O hk rfl
    exact h.of_shape a (createInBlock_shape s b "O" n t i c) fun _ => w.named i t n c
  | createDataArray b n t i c dt sh =>
    obtain ⟨w, a, _⟩ := h.mk2 b "data_arrays" n .A hk rfl
    exact h.of_shape a (createDataArray_shape s b n t i c dt sh) fun _ => ((w.named i t n c).setAttr _ _ _).setAttr _ _ _
  | createDataFrame b n t i c ns ts cols =>
    obtain ⟨w, a, _⟩ := h.mk2 b "data_frames" n .D hk rfl
    exact h.of_shape a (createDataFrame_shape s b n t i c ns ts cols) fun _ => (w.named i t n c).setAttr _ _ _
  | createTag b n t i c pos =>
    obtain ⟨w, a, _⟩ := h.mk2 b "tags" n .T hk rfl
    exact h.of_shape a (createTag_shape s b n t i c pos) fun _ => (w.named i t n c).setAttr _ _ _
  | createMultiTag b n t i c ph =>
    obtain ⟨w, a, rg⟩ := h.mk2 b "multi_tags" n .M hk rfl
    cases ph with
    | none => obtain ⟨_, e⟩ := createMultiTag_none s b n t i c; rw [Op.apply, e]; exact h.congr a
    | some ph =>
      refine h.of_shape a (createMultiTag_shape s b n t i c ph) fun _ => ?_
      rw [thenArrayLink_fst]
      exact (w.named i t n c).setArrayLink _ (by rw [rg]; rfl) (by rw [rg]; rfl) (by rw [a b hk.1]; exact hk.2)
  | createProperty sec n i c dt =>
    obtain ⟨w1, a1, l1, x1, r1⟩ := h.openGroupCreate sec "properties" .pcont hk.1 (by rw [hk.2]; rfl) (by simp)
    refine h.of_shape (a1.trans (Agree.upd (Nat.le_refl _) .prop) l1) (createProperty_shape s sec n i c dt) fun hfree =>
      ((((w1.allocLink _ n { isGroup := false } .prop x1 rfl (by simp) (by rw [r1]; rfl) (.inl ?_)).setAttr _ _ _).setAttr _ _ _).setAttr
        _ _ _).setAttr _ _ _
    -- the container was there and has no such link, or it was made just now and is empty
    rcases openGroupCreate_cases s sec "properties" with ⟨x, hx, e⟩ | ⟨hh, _⟩
    · rw [e]; exact hfree x hx
    · rw [child?, (openGroupCreate_fresh s sec _ hh hk.1).2.1]; rfl
  | createFeature tag b i c lt dh =>
    obtain ⟨w, a, rg⟩ := h.mk2 tag "features" i .F ⟨hk.1, rfl⟩ (by rcases hk.2.1 with e | e <;> rw [e] <;> rfl)
    cases dh with
    | none => obtain ⟨_, e⟩ := createFeature_none s tag b i c lt; rw [Op.apply, e]; exact h.congr a
    | some dh =>
      refine h.of_shape a (createFeature_shape s tag b i c lt dh) fun _ => ?_
      rw [thenArrayLink_fst]
      exact (((w.setAttr _ _ _).setAttr _ _ _).setAttr _ _ _).setArrayLink _ (by rw [rg]; rfl) (by rw [rg]; rfl)
        (by rw [a b hk.2.2.1]; exact hk.2.2.2)
  | setSectionLink holder f id =>
    exact (setSectionLink_shape s holder f id).elim (P := (WT · ρ)) h fun _ => h.relink hk.1 hk.2 fun _ ht => h.findSectionById ht
  | unsetLink holder f => exact h.removeGroup holder f
  | setArrayLink holder b f k => exact h.setArrayLink k hk.1 hk.2.1 hk.2.2
  | setExtents m b k =>
    exact (setExtents_shape s m b k).elim (P := (WT · ρ)) h fun _ => h.relink hk.1 hk.2.1 fun _ ht => h.blkFindKey hk.2.2 ht
  | addReference t b k =>
    obtain ⟨w, a, _, _, rc⟩ := h.openGroupCreate t "references" (.lcont .A) hk.1 hk.2.1 (by simp)
    rw [Op.apply, addReference_eq]
    exact w.linkById rc fun _ ht => w.blkFindKey (by rw [a b hk.2.2.1]; exact hk.2.2.2) ht
  | addSource holder b id =>
    rw [Op.apply, addSource_eq, Op.roleAfter]
    split
    · exact h
    · obtain ⟨w, a, _, _, rc⟩ := h.openGroupCreate holder "sources" (.lcont .O) hk.1 hk.2.1 (by simp)
      exact w.linkById rc fun _ ht => w.findSourceById (by rw [a b hk.2.2.1]; exact hk.2.2.2) ht
  | addMember g b k n i =>
    obtain ⟨w, a, _, _, rc⟩ := h.openGroupCreate g (groupContainer k) (.lcont (gKind k)) hk.1
      (by rw [hk.2.1]; exact childRole_groupContainer k) (by simp)
    rw [Op.apply, addMember_eq]
    exact w.linkById rc fun _ ht => hk.2.2.2.2 ▸ w.blkFind (by rw [a b hk.2.2.1]; exact hk.2.2.2.1) ht
  | setNonEmpty o k v =>
    rw [Op.apply, setNonEmpty]; split
    · exact h
    · exact h.setAttr o k v
  | unsetAttr o k => exact h.removeAttr o k
  | setAttr o k v => exact h.setAttr o k v
  | deleteBlock k => exact h.unlinks (deleteBlock_unlinks_below s k)
  | deleteSection p k => exact h.unlinks (deleteSection_unlinks_below s p k)
  | deleteSubSource p k => exact h.unlinks (deleteSubSource_unlinks_below s p k)
  | deleteBlockSource b k => exact h.unlinks (deleteBlockSource_unlinks_below s b k)
  | removeEntity b k n i => exact h.unlinks (removeEntity_unlinks_below s b k n i)
  | deleteProperty sec k => exact h.unlinkedOne (deleteProperty_unlinkedOne s sec k)
  | removeReference t b k => exact h.unlinkedOne (removeReference_unlinkedOne s t b k)
  | removeSource holder id => exact h.unlinkedOne (removeSource_unlinkedOne s holder id)
  | removeMember g k n i => exact h.unlinkedOne (removeMember_unlinkedOne s g k n i)

/-- deleting never breaks the schema: every delete only removes links (the nine delete cases of `apply_wt`, which need no guard) -/
theorem delete_wt {s : Store} {ρ : ObjId → Role} (h : WT s ρ) :
    (∀ key, WT (deleteBlock s key).1 ρ) ∧ (∀ p key, WT (deleteSection s p key).1 ρ) ∧ (∀ p key, WT (deleteSubSource s p key).1 ρ) ∧
    (∀ b key, WT (deleteBlockSource s b key).1 ρ) ∧ (∀ b k n i, WT (removeEntity s b k n i).1 ρ) ∧
    (∀ sec key, WT (deleteProperty s sec key).1 ρ) ∧ (∀ t b key, WT (removeReference s t b key).1 ρ) ∧
    (∀ holder id, WT (removeSource s holder id).1 ρ) ∧ (∀ g k n i, WT (removeMember s g k n i).1 ρ) :=
  ⟨fun k => apply_wt h (.deleteBlock k) trivial, fun p k => apply_wt h (.deleteSection p k) trivial,
    fun p k => apply_wt h (.deleteSubSource p k) trivial, fun b k => apply_wt h (.deleteBlockSource b k) trivial,
    fun b k n i => apply_wt h (.removeEntity b k n i) trivial, fun sec k => apply_wt h (.deleteProperty sec k) trivial,
    fun t b k => apply_wt h (.removeReference t b k) trivial, fun o id => apply_wt h (.removeSource o id) trivial,
    fun g k n i => apply_wt h (.removeMember g k n i) trivial⟩

def runRoles (s : Store) (ρ : ObjId → Role) : List Op → (ObjId → Role)
  | [] => ρ
  | op :: ops => runRoles (op.apply s).1 (op.roleAfter s ρ) ops

def KindedRun (s : Store) (ρ : ObjId → Role) : List Op → Prop
  | [] => True
  | op :: ops => op.kinded s ρ ∧ KindedRun (op.apply s).1 (op.roleAfter s ρ) ops

theorem run_wt {s : Store} {ρ : ObjId → Role} (h : WT s ρ) (ops : List Op) (hk : KindedRun s ρ ops) :
    WT (run s ops) (runRoles s ρ ops) := by
  induction ops generalizing s ρ with
  | nil => exact h
  | cons op ops ih =>
    simp only [run, List.foldl_cons, runRoles]
    exact ih (apply_wt h op hk.1) hk.2

end Nix.St
