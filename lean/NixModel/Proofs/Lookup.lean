import NixModel.Proofs.StoreBasics
/-
  What a lookup hands back, without any invariant: the target of a link of the container that was searched (plus whatever else
  the lookup tested).  `Sys`, `WT`, `Container` each know one thing about link targets (`Sys.low`, `WT.link`,
  `Container.groups`); composed with these lemmas that is all their `…_low`, `WT.…` lemmas say.  Then what a lookup that found
  nothing says about the container (the duplicate checks of the creators), and when a lookup is sure to find a given child.
-/
namespace Nix.St
open Store

/-- what HDF5 enforces of the link names of one object: pairwise distinct.  The empty name is exempt: `hasObject` answers false
    for it, so the duplicate checks before `addLink` do not see a link of that name -/
def UniqNames (l : List (String × ObjId)) : Prop := l.Pairwise fun a b => a.1 ≠ b.1 ∨ a.1.isEmpty = true

theorem lookup_of_uniq {l : List (String × ObjId)} (hu : UniqNames l) {n : String} {t : ObjId} (hn : n.isEmpty = false)
    (hm : (n, t) ∈ l) : l.lookup n = some t := by
  obtain ⟨l₁, l₂, rfl⟩ := List.append_of_mem hm
  refine List.lookup_eq_some_iff.mpr ⟨l₁, l₂, rfl, fun p hp => bne_iff_ne.mpr fun e => ?_⟩
  rcases (List.pairwise_append.mp hu).2.2 p hp (n, t) List.mem_cons_self with h | h
  · exact h e.symm
  · rw [← e, hn] at h; cases h

theorem UniqNames.sublist {l l' : List (String × ObjId)} (h : UniqNames l) (hs : l'.Sublist l) : UniqNames l' :=
  List.Pairwise.sublist hs h

theorem UniqNames.append {l : List (String × ObjId)} (h : UniqNames l) (n : String) (t : ObjId)
    (hfree : l.lookup n = none ∨ n.isEmpty = true) : UniqNames (l ++ [(n, t)]) := by
  refine List.pairwise_append.mpr ⟨h, List.pairwise_singleton _ _, fun a ha b hb => ?_⟩
  rw [List.mem_singleton.mp hb]
  cases hfree with
  | inl hf => exact .inl (lookup_none_iff.mp hf a ha)
  | inr he =>
    by_cases hx : a.1 = n
    · exact .inr (hx ▸ he)
    · exact .inl hx

theorem find?_snd_some {l : List (String × ObjId)} {p : String × ObjId → Bool} {x : ObjId}
    (h : (l.find? p).map (·.2) = some x) : ∃ m, (m, x) ∈ l ∧ p (m, x) = true := by
  obtain ⟨y, hf, rfl⟩ := Option.map_eq_some_iff.mp h
  exact ⟨y.1, List.mem_of_find?_eq_some hf, List.find?_some hf⟩

theorem findGroupByAttribute_some {s : Store} {g : ObjId} {a v : String} {x : ObjId} (h : s.findGroupByAttribute g a v = some x) :
    ∃ m, (m, x) ∈ s.linksOf g ∧ s.isGroupObj x = true ∧ s.attr? x a = some v := by
  obtain ⟨m, hm, hp⟩ := find?_snd_some h
  exact ⟨m, hm, by simpa using hp⟩

theorem byNameOrAttribute_mem {s : Store} {g : ObjId} {v : String} {p : String × ObjId → Bool} {x : ObjId}
    (h : (if s.hasObject g v then s.child? g v else if looksLikeUUID v then ((s.linksOf g).find? p).map (·.2) else none) = some x) :
    ∃ m, (m, x) ∈ s.linksOf g := by
  split at h
  · exact ⟨v, child?_mem h⟩
  · split at h
    · obtain ⟨m, hm, _⟩ := find?_snd_some h; exact ⟨m, hm⟩
    · cases h

theorem findGroup_mem {s : Store} {g : ObjId} {a v : String} {x : ObjId} (h : s.findGroupByNameOrAttribute g a v = some x) :
    ∃ m, (m, x) ∈ s.linksOf g := byNameOrAttribute_mem h

theorem findData_mem {s : Store} {g : ObjId} {a v : String} {x : ObjId} (h : s.findDataByNameOrAttribute g a v = some x) :
    ∃ m, (m, x) ∈ s.linksOf g := byNameOrAttribute_mem h

/-- the skeleton that `blkFind` and `grpFind` (BlockHDF5::findEntityGroup, GroupHDF5::findEntityGroup) share, written as the two
    definitions write it: their bodies unfold to this `match` up to the choice of `c`, `e`, `g`, `bad`, which unification finds -/
theorem findEntityGroup_some {c : Option ObjId} {e : Bool} {g : ObjId → Option ObjId} {bad : ObjId → Bool} {x : ObjId}
    (h : (match c with
      | none => none
      | some p => if e then none else match g p with
        | some o => if bad o then none else some o
        | none => none) = some x) : ∃ p, c = some p ∧ g p = some x ∧ bad x = false := by
  cases c with
  | none => cases h
  | some p =>
    dsimp only at h
    split at h
    · cases h
    · split at h
      · rename_i o hg
        split at h
        · cases h
        · cases h; exact ⟨p, rfl, hg, Bool.eq_false_iff.mpr ‹_›⟩
      · cases h

theorem blkFind_some {s : Store} {b : ObjId} {k n i : String} {x : ObjId} (h : blkFind s b k n i = some x) :
    ∃ p m, s.optGroup b (blockContainer k) = some p ∧ (m, x) ∈ s.linksOf p ∧ s.isGroupObj x = true ∧
      (n.isEmpty = false → i.isEmpty = false → s.attr? x "entity_id" = some i) := by
  obtain ⟨p, hp, hg, hid⟩ := findEntityGroup_some h
  have ⟨m, hm, hgx⟩ : ∃ m, (m, x) ∈ s.linksOf p ∧ s.isGroupObj x = true := by
    generalize (if (!n.isEmpty) = true then n else i) = needle at hg
    split at hg
    · have hg' : s.optGroup p needle = some x := hg
      exact ⟨_, optGroup_mem hg', (optGroup_some.mp hg').2.2⟩
    · split at hg
      · obtain ⟨m, hm, hgo, _⟩ := findGroupByAttribute_some hg; exact ⟨m, hm, hgo⟩
      · cases hg
  exact ⟨p, m, hp, hm, hgx, fun hn hi => by simpa [hn, hi] using hid⟩

theorem blkFindKey_some {s : Store} {b : ObjId} {k key : String} {x : ObjId} (h : blkFindKey s b k key = some x) :
    ∃ p m, s.optGroup b (blockContainer k) = some p ∧ (m, x) ∈ s.linksOf p ∧ s.isGroupObj x = true := by
  obtain ⟨p, m, hp, hm, hg, _⟩ := blkFind_some (show blkFind s b k (identOfString key).1 (identOfString key).2 = some x from h)
  exact ⟨p, m, hp, hm, hg⟩

theorem grpFind_some {s : Store} {g : ObjId} {k n i : String} {x : ObjId} (h : grpFind s g k n i = some x) :
    ∃ p m, s.optGroup g (groupContainer k) = some p ∧ (m, x) ∈ s.linksOf p := by
  obtain ⟨p, hp, hg, _⟩ := findEntityGroup_some h
  refine ⟨p, ?_⟩
  suffices ∃ m, (m, x) ∈ s.linksOf p from this.imp fun m hm => ⟨hp, hm⟩
  generalize (if (!i.isEmpty) = true then i else n) = needle at hg
  split at hg
  · exact ⟨_, child?_mem hg⟩
  · split at hg
    · obtain ⟨m, hm, _⟩ := findGroupByAttribute_some hg; exact ⟨m, hm⟩
    · cases hg

theorem levelOrder_closed {s : Store} {cname : String} (P : ObjId → Prop)
    (step : ∀ r c m x, P r → s.optGroup r cname = some c → (m, x) ∈ s.linksOf c → P x) (fuel : Nat) :
    ∀ roots : List ObjId, (∀ r ∈ roots, P r) → ∀ x ∈ levelOrder cname fuel s roots, P x := by
  induction fuel with
  | zero => intro _ _ x hx; simp [levelOrder] at hx
  | succ fuel ih =>
    intro roots hr x hx
    unfold levelOrder at hx
    split at hx
    · cases hx
    · rcases List.mem_append.mp hx with h1 | h2
      · exact hr x h1
      · refine ih _ (fun y hy => ?_) x h2
        obtain ⟨r, hrm, hin⟩ := List.mem_flatMap.mp hy
        cases hc : s.optGroup r cname with
        | none => simp [hc] at hin
        | some c =>
          simp only [hc, List.mem_map] at hin
          obtain ⟨l, hl, rfl⟩ := hin
          exact step r c l.1 l.2 (hr r hrm) hc hl

theorem findSectionById_closed {s : Store} (P : ObjId → Prop)
    (step : ∀ r c m x, P r → s.optGroup r "sections" = some c → (m, x) ∈ s.linksOf c → P x)
    (top : ∀ m x, (m, x) ∈ s.linksOf metadataGrp → P x) {id : String} {x : ObjId} (h : findSectionById s id = some x) : P x :=
  levelOrder_closed P step _ _ (fun r hr => by obtain ⟨l, hl, rfl⟩ := List.mem_map.mp hr; exact top l.1 l.2 hl) x
    (List.mem_of_find?_eq_some h)

theorem findSourceById_closed {s : Store} (P : ObjId → Prop)
    (step : ∀ r c m x, P r → s.optGroup r "sources" = some c → (m, x) ∈ s.linksOf c → P x)
    {b : ObjId} (top : ∀ c m x, s.optGroup b "sources" = some c → (m, x) ∈ s.linksOf c → P x)
    {id : String} {x : ObjId} (h : findSourceById s b id = some x) : P x := by
  unfold St.findSourceById allSources at h
  cases hc : s.optGroup b "sources" with
  | none => simp [hc] at h
  | some c =>
    simp only [hc] at h
    exact levelOrder_closed P step _ _ (fun r hr => by obtain ⟨l, hl, rfl⟩ := List.mem_map.mp hr; exact top c l.1 l.2 hc hl) x
      (List.mem_of_find?_eq_some h)

/-- `r`: the attribute scan of `findGroupByNameOrAttribute` / `findDataByNameOrAttribute` -/
theorem child?_none_of_byName {s : Store} {g : ObjId} {n : String} {r : Option ObjId} (hn : n.isEmpty = false)
    (h : (if s.hasObject g n then s.child? g n else r) = none) : s.child? g n = none := by
  unfold hasObject at h
  cases hc : s.child? g n with
  | none => rfl
  | some x => simp [hn, hc] at h

theorem hasGroup_of_child_none {s : Store} {g : ObjId} {n : String} (h : s.child? g n = none) : s.hasGroup g n = false := by
  simp [hasGroup, h]

theorem blkFind_single_isSome (s : Store) (blk p : ObjId) (kind v : String)
    (hp : s.optGroup blk (blockContainer kind) = some p) (hg : s.hasGroup p v = true) :
    (blkFind s blk kind v "").isSome = true ∧ (blkFind s blk kind "" v).isSome = true := by
  obtain ⟨hn, x, hc, ho⟩ := hasGroup_child s p v hg
  have e1 : ("" : String).isEmpty = true := by decide
  constructor <;> (unfold blkFind; simp [hp, hn, e1, ho, hg, hc])

theorem blkFind_none_hasGroup (s : Store) (blk p : ObjId) (kind n : String)
    (hp : s.optGroup blk (blockContainer kind) = some p) (h : blkFindKey s blk kind n = none) : s.hasGroup p n = false := by
  refine Bool.eq_false_iff.mpr fun hg => ?_
  obtain ⟨h1, h2⟩ := blkFind_single_isSome s blk p kind n hp hg
  replace h : blkFind s blk kind (identOfString n).1 (identOfString n).2 = none := h
  unfold identOfString at h
  split at h
  · rw [h] at h2; cases h2
  · rw [h] at h1; cases h1

theorem findGroup_of_no_child {s : Store} {c : ObjId} {a v : String} (hu : looksLikeUUID v = true) (hc : s.child? c v = none) :
    s.findGroupByNameOrAttribute c a v = s.findGroupByAttribute c a v := by
  simp [findGroupByNameOrAttribute, hasObject, hc, hu]

theorem findGroupByAttribute_eq {s : Store} {c : ObjId} {a v n : String} {t : ObjId} (hm : (n, t) ∈ s.linksOf c)
    (hg : s.isGroupObj t = true) (ha : s.attr? t a = some v) (hu : ∀ l ∈ s.linksOf c, s.attr? l.2 a = some v → l.2 = t) :
    s.findGroupByAttribute c a v = some t := by
  unfold findGroupByAttribute
  cases hf : (s.linksOf c).find? (fun l => s.isGroupObj l.2 && s.attr? l.2 a == some v) with
  | none => simpa [hg, ha] using List.find?_eq_none.mp hf (n, t) hm
  | some l =>
    have hp := List.find?_some hf
    simp only [Bool.and_eq_true, beq_iff_eq] at hp
    exact congrArg some (hu l (List.mem_of_find?_eq_some hf) hp.2)

theorem blkFindKey_uuid {key : String} (h : looksLikeUUID key = true) (s : Store) (b : ObjId) (k : String) :
    blkFindKey s b k key = blkFind s b k "" key := by
  simp only [blkFindKey, identOfString, h, if_true]

theorem blkFind_id_eq (s : Store) (blk : ObjId) (kind : String) {id : String} (hid : id.isEmpty = false) :
    blkFind s blk kind "" id = (s.optGroup blk (blockContainer kind)).bind fun p =>
      if s.hasObject p id then s.optGroup p id else s.findGroupByAttribute p "entity_id" id := by
  have e1 : ("" : String).isEmpty = true := by decide
  unfold blkFind
  cases s.optGroup blk (blockContainer kind) with
  | none => rfl
  | some p =>
    simp only [e1, hid, Option.bind_some, Bool.true_and, Bool.not_true, Bool.false_eq_true, if_false, Bool.not_false, if_true, Bool.false_and]
    unfold Store.optGroup
    split <;> rename_i hg <;> exact hg.symm

theorem blkFind_by_id_isSome {s : Store} {blk p : ObjId} {kind id : String} (hp : s.optGroup blk (blockContainer kind) = some p)
    (hid : id.isEmpty = false) (hgroups : ∀ l ∈ s.linksOf p, s.isGroupObj l.2 = true) :
    (blkFind s blk kind "" id).isSome = true ↔ ∃ l ∈ s.linksOf p, l.1 = id ∨ s.attr? l.2 "entity_id" = some id := by
  rw [blkFind_id_eq s blk kind hid, hp, Option.bind_some]
  cases hc : s.child? p id with
  | some x =>
    have hx : s.optGroup p id = some x := optGroup_some.mpr ⟨hid, hc, hgroups _ (child?_mem hc)⟩
    simp only [hasObject, hid, hc, hx, Option.isSome_some, Bool.not_false, Bool.and_self, if_true, true_iff]
    exact ⟨_, child?_mem hc, .inl rfl⟩
  | none =>
    simp only [hasObject, hc, Option.isSome_none, Bool.and_false, Bool.false_eq_true, if_false, findGroupByAttribute, Option.isSome_map,
      List.find?_isSome, Bool.and_eq_true, beq_iff_eq]
    exact exists_congr fun l => and_congr_right fun hl =>
      ⟨fun h => .inr h.2, fun h => ⟨hgroups l hl, h.resolve_left (lookup_none_iff.mp hc l hl)⟩⟩

end Nix.St
