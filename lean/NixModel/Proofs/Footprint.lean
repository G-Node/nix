import NixModel.Proofs.OpShapes
import NixModel.Proofs.Unlinks
/-
  The attribute footprint of a step.  `attr?` is a total map (absent objects have no attributes), and the only primitives that
  move it are `setAttr` and `removeAttr`, at one (object, key); `alloc` of an object without attributes, `addLink`, `unlink`,
  `unlinkAll`, `openGroupCreate` leave it alone everywhere.  `Writes W s s'` records which entries may differ and what they may
  hold; what the properties say about ids (IdStep, NoNewIds, IdsKept) are readings of it at the key "entity_id".
-/
namespace Nix.St
open Store

def Writes (W : ObjId → String → Option String → Prop) (s s' : Store) : Prop :=
  s.objs.length ≤ s'.objs.length ∧ ∀ o k, s'.attr? o k = s.attr? o k ∨ W o k (s'.attr? o k)

variable {W : ObjId → String → Option String → Prop}

theorem Writes.of_attrs {s s' : Store} (hl : s.objs.length ≤ s'.objs.length) (h : ∀ o k, s'.attr? o k = s.attr? o k) : Writes W s s' :=
  ⟨hl, fun o k => .inl (h o k)⟩

theorem Writes.refl (s : Store) : Writes W s s := .of_attrs (Nat.le_refl _) fun _ _ => rfl

theorem Writes.trans {a b c : Store} (h1 : Writes W a b) (h2 : Writes W b c) : Writes W a c :=
  ⟨Nat.le_trans h1.1 h2.1, fun o k => (h2.2 o k).elim (fun e => e ▸ h1.2 o k) .inr⟩

theorem Writes.setAttr (s : Store) {o : ObjId} {k v : String} (hw : W o k (some v)) : Writes W s (s.setAttr o k v) := by
  refine ⟨Nat.le_of_eq (length_setAttr ..).symm, fun o' k' => ?_⟩
  rw [attr?_setAttr]; split
  · rename_i h; rw [h.1, h.2.1]; exact .inr hw
  · exact .inl rfl

theorem Writes.removeAttr (s : Store) {o : ObjId} {k : String} (hw : W o k none) : Writes W s (s.removeAttr o k) := by
  refine ⟨Nat.le_of_eq (length_removeAttr ..).symm, fun o' k' => ?_⟩
  rw [attr?_removeAttr]; split
  · rename_i h; rw [h.1, h.2]; exact .inr hw
  · exact .inl rfl

theorem Writes.alloc (s : Store) (ob : Obj) (hob : ob.attrs = []) : Writes W s (s.alloc ob).1 :=
  .of_attrs (by rw [length_alloc]; exact Nat.le_succ _) fun o k => by
    rw [attr?_alloc]; split
    · rename_i h; rw [hob, attr?_none_of_ge (Nat.le_of_eq h.symm)]; rfl
    · rfl

theorem Writes.addLink (s : Store) (g : ObjId) (n : String) (t : ObjId) : Writes W s (s.addLink g n t) :=
  .of_attrs (Nat.le_of_eq (length_addLink ..).symm) (attr?_addLink s g n t)

theorem Writes.unlink (s : Store) (g : ObjId) (n : String) : Writes W s (s.unlink g n) :=
  .of_attrs (Nat.le_of_eq (length_unlink ..).symm) (attr?_unlink s g n)

theorem Writes.removeGroup (s : Store) (g : ObjId) (n : String) : Writes W s (s.removeGroup g n) := by
  rcases removeGroup_cases s g n with h | h <;> rw [h]
  · exact .unlink s g n
  · exact .refl s

theorem Writes.removeData (s : Store) (g : ObjId) (n : String) : Writes W s (s.removeData g n) := by
  rcases removeData_cases s g n with h | h <;> rw [h]
  · exact .unlink s g n
  · exact .refl s

theorem Writes.unlinkAll (s : Store) (D : List ObjId) : Writes W s (s.unlinkAll D) :=
  .of_attrs (Nat.le_of_eq (length_unlinkAll s D).symm) (attr?_unlinkAll s D)

theorem Writes.of_unlinks {P : ObjId → Prop} {s s' : Store} (h : Unlinks P s s') : Writes W s s' :=
  let ⟨D, _, e⟩ := h; e ▸ .unlinkAll s D

theorem Writes.openGroupCreate (s : Store) (g : ObjId) (n : String) : Writes W s (s.openGroupCreate g n).1 :=
  .of_attrs (length_openGroupCreate s g n) (attr?_openGroupCreate s g n)

theorem Writes.mk2 (s : Store) (par : ObjId) (cn n : String) : Writes W s (St.mk2 s par cn n).1 :=
  (Writes.openGroupCreate s par cn).trans (.openGroupCreate _ _ n)

/-- what an entity constructor writes: attributes of the one object `g`, which is new (`n`: the number of objects before), the id
    among them being `i` -/
def onNew (n : Nat) (g : ObjId) (i : String) : ObjId → String → Option String → Prop :=
  fun o k v => o = g ∧ n ≤ g ∧ (k = "entity_id" → v = some i)

def noWrite : ObjId → String → Option String → Prop := fun _ _ _ => False

theorem onNew.other {n : Nat} {g : ObjId} {i k : String} {v : Option String} (hg : n ≤ g) (hk : k ≠ "entity_id") : onNew n g i g k v :=
  ⟨rfl, hg, fun h => absurd h hk⟩

theorem Writes.named {n : Nat} {id : String} (p : Store × ObjId) (hg : n ≤ p.2) (type name created : String) :
    Writes (onNew n p.2 id) p.1 (St.named p id type name created) :=
  (((Writes.setAttr _ ⟨rfl, hg, fun _ => rfl⟩).trans (.setAttr _ (.other hg (by decide)))).trans
    (.setAttr _ (.other hg (by decide)))).trans (.setAttr _ (.other hg (by decide)))

theorem Writes.named_top {s : Store} {top : ObjId} {n : String} (hfree : s.child? top n = none) (id type created : String) :
    Writes (onNew s.objs.length (s.openGroupCreate top n).2 id) s (St.named (s.openGroupCreate top n) id type n created) :=
  (Writes.openGroupCreate ..).trans (.named _ (Nat.le_of_eq (congrArg Prod.snd (openGroupCreate_new (hasGroup_of_child_none hfree))).symm) ..)

theorem Writes.named_mk2 {s : Store} {par : ObjId} {cn n : String} (hpar : par < s.objs.length) (hd : NoDup2 s par cn n)
    (id type created : String) : Writes (onNew s.objs.length (St.mk2 s par cn n).2 id) s (St.named (St.mk2 s par cn n) id type n created) :=
  (Writes.mk2 s par cn n).trans (.named _ (mk2_new hpar hd) ..)

theorem Writes.relink (s : Store) (holder : ObjId) (f : String) (target : Option ObjId) : Writes W s (St.relink s holder f target).1 := by
  cases target with
  | none => exact .refl s
  | some a => exact (Writes.removeGroup s holder f).trans (.addLink ..)

theorem Writes.setArrayLink (s : Store) (g b : ObjId) (f key : String) : Writes W s (St.setArrayLink s g b f key).1 := by
  rw [setArrayLink_eq]; exact .relink ..

theorem Writes.thenArrayLink (s : Store) (g b : ObjId) (f key : String) : Writes W s (St.thenArrayLink s g b f key).1 := by
  rw [thenArrayLink_fst]; exact .setArrayLink ..

theorem Writes.linkById (s : Store) (c : ObjId) (nm : ObjId → String) (target : Option ObjId) : Writes W s (St.linkById s c nm target).1 := by
  cases target with
  | none => exact .refl s
  | some a =>
    unfold St.linkById; dsimp only; split
    · exact .refl s
    · exact .addLink ..

end Nix.St
