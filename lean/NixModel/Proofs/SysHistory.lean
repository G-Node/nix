import NixModel.Proofs.SysInv
import NixModel.Proofs.OpShapes
/-
  Every entry point of the store model preserves `Sys`, and so does every history (`run_sys`): what the shapes of
  Proofs/OpShapes.lean write out is built from primitives on entity objects, and the objects that lookups and
  `openGroupCreate` hand back are entity objects again.
-/
namespace Nix.St
open Store

theorem Sys.named {p : Store × ObjId} (h : Sys p.1 ∧ 3 ≤ p.2) (id type name created : String) : Sys (St.named p id type name created) :=
  have hg := Nat.ne_zero_of_lt h.2
  (((h.1.setAttr _ _ _ hg).setAttr _ _ _ hg).setAttr _ _ _ hg).setAttr _ _ _ hg

theorem Sys.mk2 {s : Store} (h : Sys s) {par : ObjId} (hpar : 3 ≤ par) (cn n : String) :
    Sys (St.mk2 s par cn n).1 ∧ 3 ≤ (St.mk2 s par cn n).2 :=
  have h0 := h.openGroupCreate par cn (Nat.ne_zero_of_lt hpar)
  h0.1.openGroupCreate _ n (Nat.ne_zero_of_lt h0.2)

/-- every creation hands back an entity object; with the lookups (`Sys.…_low`) this is why the guard `Op.entityArgs` sustains itself
    along the history of a client that only uses handles the library gave it -/
theorem Sys.created_low {s : Store} (h : Sys s) {g : ObjId} :
    (∀ n t i c, (createBlock s n t i c).2 = .ok g → 3 ≤ g) ∧
    (∀ p n t i c, (∀ x, p = some x → 3 ≤ x) → (createSectionIn s p n t i c).2 = .ok g → 3 ≤ g) ∧
    (∀ p n t i c, 3 ≤ p → (createSourceIn s p n t i c).2 = .ok g → 3 ≤ g) ∧
    (∀ b k n t i c, 3 ≤ b → (createInBlock s b k n t i c).2 = .ok g → 3 ≤ g) ∧
    (∀ b n t i c pos, 3 ≤ b → (createTag s b n t i c pos).2 = .ok g → 3 ≤ g) ∧
    (∀ b n t i c dt sh, 3 ≤ b → (createDataArray s b n t i c dt sh).2 = .ok g → 3 ≤ g) ∧
    (∀ b n t i c ns ts cols, 3 ≤ b → (createDataFrame s b n t i c ns ts cols).2 = .ok g → 3 ≤ g) ∧
    (∀ b n t i c ph, 3 ≤ b → (createMultiTag s b n t i c ph).2 = .ok g → 3 ≤ g) ∧
    (∀ sec n i c dt, (createProperty s sec n i c dt).2 = .ok g → 3 ≤ g) ∧
    (∀ tag b i c lt dh, 3 ≤ tag → (createFeature s tag b i c lt dh).2 = .ok g → 3 ≤ g) := by
  have ok {G : Prop} {y r : Res ObjId} {x : ObjId} (hs : Shape s G y r) (hr : r.2 = .ok g) (hy : y.2 = .ok x) (hx : 3 ≤ x) : 3 ≤ g := by
    rw [hs.handle hr] at hy; cases hy; exact hx
  have top (n : String) {c : ObjId} (hc : c ≠ 0) := (h.openGroupCreate c n hc).2
  refine ⟨fun n t i c hg => ok (createBlock_shape s n t i c) hg rfl (top n (by decide)), fun p n t i c hp hg => ?_,
    fun p n t i c hp hg => ok (createSourceIn_shape s p n t i c) hg rfl (h.mk2 hp ..).2,
    fun b k n t i c hb hg => ok (createInBlock_shape s b k n t i c) hg rfl (h.mk2 hb ..).2,
    fun b n t i c pos hb hg => ok (createTag_shape s b n t i c pos) hg rfl (h.mk2 hb ..).2,
    fun b n t i c dt sh hb hg => ok (createDataArray_shape s b n t i c dt sh) hg rfl (h.mk2 hb ..).2,
    fun b n t i c ns ts cols hb hg => ok (createDataFrame_shape s b n t i c ns ts cols) hg rfl (h.mk2 hb ..).2,
    fun b n t i c ph hb hg => ?_, fun sec n i c dt hg => ok (createProperty_shape s sec n i c dt) hg rfl ?_,
    fun tag b i c lt dh ht hg => ?_⟩
  · cases p with
    | none => exact ok (createSectionIn_none_shape s n t i c) hg rfl (top n (by decide))
    | some p => exact ok (createSectionIn_some_shape s p n t i c) hg rfl (h.mk2 (hp p rfl) ..).2
  · cases ph with
    | none => obtain ⟨e, he⟩ := createMultiTag_none s b n t i c; rw [he] at hg; cases hg
    | some ph =>
      have hy := (createMultiTag_shape s b n t i c ph).handle hg
      rw [thenArrayLink_handle hy]; exact (h.mk2 hb ..).2
  · exact Nat.le_trans h.len (length_openGroupCreate ..)
  · cases dh with
    | none => obtain ⟨e, he⟩ := createFeature_none s tag b i c lt; rw [he] at hg; cases hg
    | some dh =>
      have hy := (createFeature_shape s tag b i c lt dh).handle hg
      rw [thenArrayLink_handle hy]; exact (h.mk2 ht ..).2

theorem Sys.relink {s : Store} (h : Sys s) {holder : ObjId} (hh : 3 ≤ holder) (f : String) {target : Option ObjId}
    (ht : ∀ t, target = some t → 3 ≤ t) : Sys (St.relink s holder f target).1 := by
  cases target with
  | none => exact h
  | some t => exact (h.removeGroup holder f (Nat.ne_zero_of_lt hh)).addLink holder f t (Nat.ne_zero_of_lt hh) (ht t rfl)

theorem Sys.linkById {s : Store} (h : Sys s) {c : ObjId} (hc : 3 ≤ c) (nm : ObjId → String) {target : Option ObjId}
    (ht : ∀ t, target = some t → 3 ≤ t) : Sys (St.linkById s c nm target).1 := by
  cases target with
  | none => exact h
  | some t =>
    unfold St.linkById; dsimp only; split
    · exact h
    · exact h.addLink c _ t (Nat.ne_zero_of_lt hc) (ht t rfl)

theorem setArrayLink_sys {s : Store} (h : Sys s) (holder b : ObjId) (f key : String) (hh : 3 ≤ holder) (hb : 3 ≤ b) :
    Sys (setArrayLink s holder b f key).1 :=
  setArrayLink_eq s holder b f key ▸ h.relink hh f fun _ ht => h.blkFindKey_low (Nat.ne_zero_of_lt hb) ht

theorem Sys.thenArrayLink {s : Store} (h : Sys s) {g b : ObjId} (hg : 3 ≤ g) (hb : 3 ≤ b) (f key : String) :
    Sys (St.thenArrayLink s g b f key).1 :=
  thenArrayLink_fst s g b f key ▸ setArrayLink_sys h g b f key hg hb

theorem addReference_sys {s : Store} (h : Sys s) (tag b : ObjId) (key : String) (ht : 3 ≤ tag) (hb : 3 ≤ b) :
    Sys (addReference s tag b key).1 := by
  have h0 := h.openGroupCreate tag "references" (Nat.ne_zero_of_lt ht)
  rw [addReference_eq]; exact h0.1.linkById h0.2 _ fun _ hf => h0.1.blkFindKey_low (Nat.ne_zero_of_lt hb) hf

theorem addSource_sys {s : Store} (h : Sys s) (holder b : ObjId) (id : String) (hh : 3 ≤ holder) (hb : 3 ≤ b) :
    Sys (addSource s holder b id).1 := by
  rw [addSource_eq]; split
  · exact h
  · have h0 := h.openGroupCreate holder "sources" (Nat.ne_zero_of_lt hh)
    exact h0.1.linkById h0.2 _ fun _ hf => h0.1.findSourceById_low (Nat.ne_zero_of_lt hb) hf

theorem addMember_sys {s : Store} (h : Sys s) (grp b : ObjId) (k n i : String) (hg : 3 ≤ grp) (hb : 3 ≤ b) :
    Sys (addMember s grp b k n i).1 := by
  have h0 := h.openGroupCreate grp (groupContainer k) (Nat.ne_zero_of_lt hg)
  rw [addMember_eq]; exact h0.1.linkById h0.2 _ fun _ hf => h0.1.blkFind_low (Nat.ne_zero_of_lt hb) hf

/-- the object arguments of an entry point are entity objects.  The guard sustains itself: whatever the API hands out — a created
    entity (`Sys.created_low`), a lookup result (`Sys.…_low`) — has an index ≥ 3; 0, 1, 2
    are the root and its two groups, which no front-end object wraps -/
def Op.entityArgs : Op → Prop
  | .createBlock .. => True
  | .createSection p .. => ∀ x, p = some x → 3 ≤ x
  | .createSubSource p .. => 3 ≤ p
  | .createGroup b .. => 3 ≤ b
  | .createSource b .. => 3 ≤ b
  | .createDataArray b .. => 3 ≤ b
  | .createDataFrame b .. => 3 ≤ b
  | .createTag b .. => 3 ≤ b
  | .createMultiTag b .. => 3 ≤ b
  | .createProperty sec .. => 3 ≤ sec
  | .createFeature tag b .. => 3 ≤ tag ∧ 3 ≤ b
  | .setSectionLink holder .. => 3 ≤ holder
  | .unsetLink holder _ => 3 ≤ holder
  | .setArrayLink holder b .. => 3 ≤ holder ∧ 3 ≤ b
  | .setExtents mt b _ => 3 ≤ mt ∧ 3 ≤ b
  | .addReference tag b _ => 3 ≤ tag ∧ 3 ≤ b
  | .addSource holder b _ => 3 ≤ holder ∧ 3 ≤ b
  | .addMember grp b .. => 3 ≤ grp ∧ 3 ≤ b
  | .setNonEmpty o .. => 3 ≤ o
  | .unsetAttr o _ => 3 ≤ o
  | .setAttr o .. => 3 ≤ o
  | .deleteBlock _ => True
  | .deleteSection p _ => ∀ x, p = some x → 3 ≤ x
  | .deleteSubSource p _ => 3 ≤ p
  | .deleteBlockSource b _ => 3 ≤ b
  | .removeEntity b .. => 3 ≤ b
  | .deleteProperty sec _ => 3 ≤ sec
  | .removeReference tag .. => 3 ≤ tag
  | .removeSource holder _ => 3 ≤ holder
  | .removeMember grp .. => 3 ≤ grp

theorem Sys.unlinkedOne {s s' : Store} (h : Sys s) {a : ObjId} {cn : String} (ha : 3 ≤ a) (hs : UnlinkedOne s a cn s') : Sys s' := by
  rcases hs with e | ⟨c, n, hc, e⟩ <;> rw [e]
  · exact h
  · exact h.unlink c n (Nat.ne_zero_of_lt (h.optGroup_low (Nat.ne_zero_of_lt ha) hc))

theorem apply_sys {s : Store} (h : Sys s) (op : Op) (ha : op.entityArgs) : Sys (op.apply s).1 := by
  have cont {a c : ObjId} {cn : String} (ha : 3 ≤ a) (hc : s.optGroup a cn = some c) : c ≠ 0 :=
    Nat.ne_zero_of_lt (h.optGroup_low (Nat.ne_zero_of_lt ha) hc)
  have unit {α : Type} (r : Res α) (hr : Sys r.1) : Sys (unitRes r).1 := unitRes_fst r ▸ hr
  cases op with
  | createBlock n t i c =>
    exact unit _ <| (createBlock_shape s n t i c).elim h fun _ => .named (h.openGroupCreate _ n (by decide)) ..
  | createSection p n t i c =>
    refine unit _ ?_
    cases p with
    | none => exact (createSectionIn_none_shape s n t i c).elim h fun _ => .named (h.openGroupCreate _ n (by decide)) ..
    | some p => exact (createSectionIn_some_shape s p n t i c).elim h fun _ => .named (h.mk2 (ha p rfl) ..) ..
  | createSubSource p n t i c =>
    exact unit _ <| (createSourceIn_shape s p n t i c).elim h fun _ => .named (h.mk2 ha ..) ..
  | createGroup b n t i c | createSource b n t i c =>
    exact unit _ <| (createInBlock_shape s b _ n t i c).elim h fun _ => .named (h.mk2 ha ..) ..
  | createDataArray b n t i c dt sh =>
    have m := h.mk2 ha "data_arrays" n
    exact unit _ <| (createDataArray_shape s b n t i c dt sh).elim h fun _ =>
      ((Sys.named m ..).setAttr _ _ _ (Nat.ne_zero_of_lt m.2)).setAttr _ _ _ (Nat.ne_zero_of_lt m.2)
  | createDataFrame b n t i c ns ts cols =>
    have m := h.mk2 ha "data_frames" n
    exact unit _ <| (createDataFrame_shape s b n t i c ns ts cols).elim h fun _ => (Sys.named m ..).setAttr _ _ _ (Nat.ne_zero_of_lt m.2)
  | createTag b n t i c pos =>
    have m := h.mk2 ha "tags" n
    exact unit _ <| (createTag_shape s b n t i c pos).elim h fun _ => (Sys.named m ..).setAttr _ _ _ (Nat.ne_zero_of_lt m.2)
  | createMultiTag b n t i c ph =>
    have m := h.mk2 ha "multi_tags" n
    refine unit _ ?_
    cases ph with
    | none => obtain ⟨_, e⟩ := createMultiTag_none s b n t i c; rw [e]; exact h
    | some ph => exact (createMultiTag_shape s b n t i c ph).elim h fun _ => (Sys.named m ..).thenArrayLink m.2 ha ..
  | createProperty sec n i c dt =>
    have h0 := h.openGroupCreate sec "properties" (Nat.ne_zero_of_lt ha)
    have hd := h0.1.alloc { isGroup := false } rfl
    have hd0 := Nat.ne_zero_of_lt hd.2
    exact unit _ <| (createProperty_shape s sec n i c dt).elim h fun _ =>
      ((((hd.1.addLink _ n _ (Nat.ne_zero_of_lt h0.2) hd.2).setAttr _ _ _ hd0).setAttr _ _ _ hd0).setAttr _ _ _ hd0).setAttr _ _ _ hd0
  | createFeature tag b i c lt dh =>
    have m := h.mk2 ha.1 "features" i
    have hg := Nat.ne_zero_of_lt m.2
    refine unit _ ?_
    cases dh with
    | none => exact h
    | some dh =>
      exact (createFeature_shape s tag b i c lt dh).elim h fun _ =>
        (((m.1.setAttr _ _ _ hg).setAttr _ _ _ hg).setAttr _ _ _ hg).thenArrayLink m.2 ha.2 ..
  | setSectionLink holder f id => exact (setSectionLink_shape s holder f id).elim h fun _ => h.relink ha f fun _ hf => h.findSectionById_low hf
  | unsetLink holder f => exact h.removeGroup holder f (Nat.ne_zero_of_lt ha)
  | setArrayLink holder b f k => exact setArrayLink_sys h holder b f k ha.1 ha.2
  | setExtents m b k => exact (setExtents_shape s m b k).elim h fun _ => h.relink ha.1 _ fun _ hf => h.blkFindKey_low (Nat.ne_zero_of_lt ha.2) hf
  | addReference t b k => exact addReference_sys h t b k ha.1 ha.2
  | addSource holder b id => exact addSource_sys h holder b id ha.1 ha.2
  | addMember g b k n i => exact addMember_sys h g b k n i ha.1 ha.2
  | setNonEmpty o k v =>
    show Sys (setNonEmpty s o k v).1
    unfold setNonEmpty; split
    · exact h
    · exact h.setAttr o k v (Nat.ne_zero_of_lt ha)
  | unsetAttr o k => exact h.removeAttr o k (Nat.ne_zero_of_lt ha)
  | setAttr o k v => exact h.setAttr o k v (Nat.ne_zero_of_lt ha)
  -- the deletes unlink objects that lie below a non-root container (`…_unlinks_below`)
  | deleteBlock k => exact h.unlinks ((deleteBlock_unlinks_below s k).imp fun _ hd => h.below (by decide) hd)
  | deleteSection p k =>
    exact h.unlinks ((deleteSection_unlinks_below s p k).imp fun _ ⟨_, hc, hd⟩ =>
      h.below (hc.elim (fun e => e ▸ by decide) fun ⟨x, hx, hc⟩ => cont (ha x hx) hc) hd)
  | deleteSubSource p k => exact h.unlinks ((deleteSubSource_unlinks_below s p k).imp fun _ ⟨_, hc, hd⟩ => h.below (cont ha hc) hd)
  | deleteBlockSource b k => exact h.unlinks ((deleteBlockSource_unlinks_below s b k).imp fun _ ⟨_, hc, hd⟩ => h.below (cont ha hc) hd)
  | removeEntity b k n i => exact h.unlinks ((removeEntity_unlinks_below s b k n i).imp fun _ ⟨_, hc, hd⟩ => h.below (cont ha hc) hd)
  | deleteProperty sec k => exact h.unlinkedOne ha (deleteProperty_unlinkedOne s sec k)
  | removeReference t b k => exact h.unlinkedOne ha (removeReference_unlinkedOne s t b k)
  | removeSource holder id => exact h.unlinkedOne ha (removeSource_unlinkedOne s holder id)
  | removeMember g k n i => exact h.unlinkedOne ha (removeMember_unlinkedOne s g k n i)

theorem run_sys {s : Store} (h : Sys s) (ops : List Op) (ha : ∀ op ∈ ops, op.entityArgs) : Sys (run s ops) := by
  induction ops generalizing s with
  | nil => exact h
  | cons op ops ih =>
    simp only [run, List.foldl_cons]
    exact ih (apply_sys h op (ha op (by simp))) (fun o ho => ha o (by simp [ho]))

end Nix.St
