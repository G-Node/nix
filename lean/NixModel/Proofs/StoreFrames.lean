import NixModel.Store
import NixModel.Proofs.AssocList
/-
  What each primitive of the abstract store does to each of its observers (`obj?`, `attr?`, `linksOf`, `isGroupObj`,
  `objs.length`), as equations: one per primitive and observer, with an `if` at the one place that moves; then what the
  lookups by name (`child?`, `hasGroup`, `optGroup`) and `openGroupCreate` say.  Everything above reasons about stores through
  these; no proof above unfolds `modifyObj`, `alloc`, `setKV` or `delK` (`setAttr`, `removeAttr`, `addLink`, `unlink` ARE a
  `modifyObj`, and `obj?_modifyObj_ne` is applied to them as such).
-/
namespace Nix.St
open Store

theorem lookup_setKV (l : List (String × String)) (k v k' : String) :
    (setKV l k v).lookup k' = if k' = k then some v else l.lookup k' := by
  rw [setKV, any_key_eq]
  cases hl : l.lookup k with
  | some w => rw [Option.isSome_some, if_pos rfl, lookup_map_replace (fun _ => k) rfl, hl]; rfl
  | none => rw [Option.isSome_none, if_neg (by simp), lookup_append_new v hl]

theorem lookup_delK (l : List (String × String)) (k k' : String) :
    (delK l k).lookup k' = if k' = k then none else l.lookup k' :=
  lookup_filter_ne k k' l

theorem linksOf_eq (s : Store) (o : ObjId) : s.linksOf o = match s.obj? o with | some ob => ob.links | none => [] := rfl

theorem child?_mem {s : Store} {g t : ObjId} {n : String} (h : s.child? g n = some t) : (n, t) ∈ s.linksOf g := by
  obtain ⟨l₁, l₂, e, _⟩ := List.lookup_eq_some_iff.mp h
  simp [e]

theorem obj?_none_of_ge {s : Store} {o : ObjId} (h : s.objs.length ≤ o) : s.obj? o = none := by
  unfold obj?; exact List.getElem?_eq_none h

theorem obj?_isSome_iff {s : Store} {o : ObjId} : (s.obj? o).isSome = true ↔ o < s.objs.length := by
  simp [obj?]

theorem isGroupObj_lt {s : Store} {o : ObjId} (h : s.isGroupObj o = true) : o < s.objs.length :=
  Nat.lt_of_not_le fun hge => by simp [isGroupObj, obj?_none_of_ge hge] at h

theorem attr?_none_of_ge {s : Store} {o : ObjId} (h : s.objs.length ≤ o) (k : String) : s.attr? o k = none := by
  simp [attr?, obj?_none_of_ge h]

theorem linksOf_nil_of_ge {s : Store} {o : ObjId} (h : s.objs.length ≤ o) : s.linksOf o = [] := by
  simp [linksOf, obj?_none_of_ge h]

theorem obj?_modifyObj (s : Store) (o o' : ObjId) (f : Obj → Obj) :
    (s.modifyObj o f).obj? o' = if o = o' then (s.obj? o').map f else s.obj? o' := by
  simp only [modifyObj, obj?, List.getElem?_modify]
  split <;> simp

theorem obj?_modifyObj_ne (s : Store) {g o : ObjId} (f : Obj → Obj) (h : g ≠ o) : (s.modifyObj g f).obj? o = s.obj? o := by
  rw [obj?_modifyObj, if_neg h]

theorem length_modifyObj (s : Store) (o : ObjId) (f : Obj → Obj) : (s.modifyObj o f).objs.length = s.objs.length := by simp [modifyObj]

theorem attr?_modifyObj (s : Store) (g : ObjId) (f : Obj → Obj) (hf : ∀ ob, (f ob).attrs = ob.attrs) (o : ObjId) (k : String) :
    (s.modifyObj g f).attr? o k = s.attr? o k := by
  simp only [attr?, obj?_modifyObj]
  by_cases h : g = o
  · subst h; cases s.obj? g <;> simp [hf]
  · simp [h]

theorem linksOf_modifyObj (s : Store) (g : ObjId) (f : Obj → Obj) (hf : ∀ ob, (f ob).links = ob.links) (o : ObjId) :
    (s.modifyObj g f).linksOf o = s.linksOf o := by
  simp only [linksOf, obj?_modifyObj]
  by_cases h : g = o
  · subst h; cases s.obj? g <;> simp [hf]
  · simp [h]

theorem isGroupObj_modifyObj (s : Store) (g : ObjId) (f : Obj → Obj) (hf : ∀ ob, (f ob).isGroup = ob.isGroup) (o : ObjId) :
    (s.modifyObj g f).isGroupObj o = s.isGroupObj o := by
  simp only [isGroupObj, obj?_modifyObj]
  by_cases h : g = o
  · subst h; cases s.obj? g <;> simp [hf]
  · simp [h]

theorem attr?_setAttr (s : Store) (g : ObjId) (k v : String) (o : ObjId) (k' : String) :
    (s.setAttr g k v).attr? o k' = if o = g ∧ k' = k ∧ (s.obj? g).isSome then some v else s.attr? o k' := by
  simp only [setAttr, attr?, obj?_modifyObj]
  by_cases h : g = o
  · subst h; cases s.obj? g <;> simp [lookup_setKV]
  · simp [h, Ne.symm h]

theorem linksOf_setAttr (s : Store) (g : ObjId) (k v : String) (o : ObjId) : (s.setAttr g k v).linksOf o = s.linksOf o := by
  apply linksOf_modifyObj; intro _; rfl

theorem isGroupObj_setAttr (s : Store) (g : ObjId) (k v : String) (o : ObjId) : (s.setAttr g k v).isGroupObj o = s.isGroupObj o := by
  apply isGroupObj_modifyObj; intro _; rfl

theorem obj?_isSome_setAttr (s : Store) (o : ObjId) (k v : String) (o' : ObjId) : ((s.setAttr o k v).obj? o').isSome = (s.obj? o').isSome := by
  rw [setAttr, obj?_modifyObj]
  split
  · cases s.obj? o' <;> rfl
  · rfl

theorem length_setAttr (s : Store) (o : ObjId) (k v : String) : (s.setAttr o k v).objs.length = s.objs.length := length_modifyObj _ _ _

theorem attr?_removeAttr (s : Store) (g : ObjId) (k : String) (o : ObjId) (k' : String) :
    (s.removeAttr g k).attr? o k' = if o = g ∧ k' = k then none else s.attr? o k' := by
  simp only [removeAttr, attr?, obj?_modifyObj]
  by_cases h : g = o
  · subst h; cases s.obj? g <;> simp [lookup_delK]
  · simp [h, Ne.symm h]

theorem linksOf_removeAttr (s : Store) (g : ObjId) (k : String) (o : ObjId) : (s.removeAttr g k).linksOf o = s.linksOf o := by
  apply linksOf_modifyObj; intro _; rfl

theorem isGroupObj_removeAttr (s : Store) (g : ObjId) (k : String) (o : ObjId) : (s.removeAttr g k).isGroupObj o = s.isGroupObj o := by
  apply isGroupObj_modifyObj; intro _; rfl

theorem length_removeAttr (s : Store) (o : ObjId) (k : String) : (s.removeAttr o k).objs.length = s.objs.length := length_modifyObj _ _ _

theorem linksOf_addLink (s : Store) (g : ObjId) (n : String) (t o : ObjId) :
    (s.addLink g n t).linksOf o = if o = g ∧ (s.obj? g).isSome then s.linksOf o ++ [(n, t)] else s.linksOf o := by
  simp only [addLink, linksOf, obj?_modifyObj]
  by_cases h : g = o
  · subst h; cases s.obj? g <;> simp
  · simp [h, Ne.symm h]

theorem attr?_addLink (s : Store) (g : ObjId) (n : String) (t o : ObjId) (k : String) : (s.addLink g n t).attr? o k = s.attr? o k := by
  apply attr?_modifyObj; intro _; rfl

theorem isGroupObj_addLink (s : Store) (g : ObjId) (n : String) (t o : ObjId) : (s.addLink g n t).isGroupObj o = s.isGroupObj o := by
  apply isGroupObj_modifyObj; intro _; rfl

theorem length_addLink (s : Store) (g : ObjId) (n : String) (t : ObjId) : (s.addLink g n t).objs.length = s.objs.length := length_modifyObj _ _ _

theorem linksOf_unlink (s : Store) (g : ObjId) (n : String) (o : ObjId) :
    (s.unlink g n).linksOf o = if o = g then (s.linksOf o).filter (·.1 != n) else s.linksOf o := by
  simp only [unlink, linksOf, obj?_modifyObj]
  by_cases h : g = o
  · subst h; cases s.obj? g <;> simp
  · simp [h, Ne.symm h]

theorem attr?_unlink (s : Store) (g : ObjId) (n : String) (o : ObjId) (k : String) : (s.unlink g n).attr? o k = s.attr? o k := by
  apply attr?_modifyObj; intro _; rfl

theorem isGroupObj_unlink (s : Store) (g : ObjId) (n : String) (o : ObjId) : (s.unlink g n).isGroupObj o = s.isGroupObj o := by
  apply isGroupObj_modifyObj; intro _; rfl

theorem length_unlink (s : Store) (g : ObjId) (n : String) : (s.unlink g n).objs.length = s.objs.length := length_modifyObj _ _ _

theorem removeGroup_cases (s : Store) (g : ObjId) (n : String) : s.removeGroup g n = s.unlink g n ∨ s.removeGroup g n = s := by
  unfold removeGroup; split <;> simp

theorem length_removeGroup (s : Store) (g : ObjId) (n : String) : (s.removeGroup g n).objs.length = s.objs.length := by
  rcases removeGroup_cases s g n with e | e <;> rw [e]
  exact length_unlink ..

theorem removeData_cases (s : Store) (g : ObjId) (n : String) : s.removeData g n = s.unlink g n ∨ s.removeData g n = s := by
  unfold removeData; split <;> simp

theorem alloc_snd (s : Store) (ob : Obj) : (s.alloc ob).2 = s.objs.length := rfl

theorem length_alloc (s : Store) (ob : Obj) : (s.alloc ob).1.objs.length = s.objs.length + 1 := by simp [alloc]

theorem obj?_alloc (s : Store) (ob : Obj) (o : ObjId) :
    (s.alloc ob).1.obj? o = if o = s.objs.length then some ob else s.obj? o := by
  simp only [alloc, obj?]
  split
  · rename_i h; subst h; simp
  · rename_i h
    rcases Nat.lt_or_gt_of_ne h with h | h
    · exact List.getElem?_append_left h
    · rw [List.getElem?_eq_none (by simp; omega), List.getElem?_eq_none (by omega)]

theorem attr?_alloc (s : Store) (ob : Obj) (o : ObjId) (k : String) :
    (s.alloc ob).1.attr? o k = if o = s.objs.length then ob.attrs.lookup k else s.attr? o k := by
  simp only [attr?, obj?_alloc]; by_cases h : o = s.objs.length <;> simp [h]

theorem linksOf_alloc (s : Store) (ob : Obj) (o : ObjId) :
    (s.alloc ob).1.linksOf o = if o = s.objs.length then ob.links else s.linksOf o := by
  simp only [linksOf, obj?_alloc]; by_cases h : o = s.objs.length <;> simp [h]

theorem isGroupObj_alloc (s : Store) (ob : Obj) (o : ObjId) :
    (s.alloc ob).1.isGroupObj o = if o = s.objs.length then ob.isGroup else s.isGroupObj o := by
  simp only [isGroupObj, obj?_alloc]; by_cases h : o = s.objs.length <;> simp [h]

theorem hasGroup_child (s : Store) (p : ObjId) (n : String) (hg : s.hasGroup p n = true) :
    n.isEmpty = false ∧ ∃ x, s.child? p n = some x ∧ s.hasObject p n = true := by
  unfold hasGroup at hg
  cases hn : n.isEmpty with
  | true => simp [hn] at hg
  | false =>
    cases hc : s.child? p n with
    | none => simp [hn, hc] at hg
    | some x => exact ⟨rfl, x, rfl, by simp [hasObject, hn, hc]⟩

theorem optGroup_some {s : Store} {g : ObjId} {n : String} {x : ObjId} :
    s.optGroup g n = some x ↔ n.isEmpty = false ∧ s.child? g n = some x ∧ s.isGroupObj x = true := by
  unfold Store.optGroup hasGroup
  cases n.isEmpty <;> cases hc : s.child? g n <;> simp
  exact ⟨fun ⟨a, b⟩ => ⟨b, b ▸ a⟩, fun ⟨a, b⟩ => ⟨a ▸ b, a⟩⟩

theorem optGroup_mem {s : Store} {g : ObjId} {n : String} {x : ObjId} (h : s.optGroup g n = some x) : (n, x) ∈ s.linksOf g :=
  child?_mem (optGroup_some.mp h).2.1

theorem optGroup_eq_none {s : Store} {g : ObjId} {n : String} : s.optGroup g n = none ↔ s.hasGroup g n = false := by
  unfold optGroup
  cases h : s.hasGroup g n
  · simp
  · simp only [if_true]
    obtain ⟨_, x, hx, _⟩ := hasGroup_child s g n h
    simp [hx]

theorem openGroupCreate_new {s : Store} {g : ObjId} {n : String} (h : s.hasGroup g n = false) :
    s.openGroupCreate g n = ((s.alloc { isGroup := true }).1.addLink g n s.objs.length, s.objs.length) := by
  unfold openGroupCreate
  rw [h]
  rfl

theorem openGroupCreate_cases (s : Store) (g : ObjId) (n : String) :
    (∃ x, s.optGroup g n = some x ∧ s.openGroupCreate g n = (s, x)) ∨
    (s.hasGroup g n = false ∧
      s.openGroupCreate g n = ((s.alloc { isGroup := true }).1.addLink g n s.objs.length, s.objs.length)) := by
  cases h : s.hasGroup g n
  · exact .inr ⟨rfl, openGroupCreate_new h⟩
  · obtain ⟨_, x, hx, _⟩ := hasGroup_child s g n h
    exact .inl ⟨x, by simp [optGroup, h, hx], by simp [openGroupCreate, h, hx]⟩

theorem openGroupCreate_existing (s : Store) (g : ObjId) (n : String) (h : s.hasGroup g n = true) : (s.openGroupCreate g n).1 = s := by
  unfold openGroupCreate
  simp [h]
  split <;> rfl

theorem attr?_openGroupCreate (s : Store) (g : ObjId) (n : String) (o : ObjId) (k : String) :
    (s.openGroupCreate g n).1.attr? o k = s.attr? o k := by
  rcases openGroupCreate_cases s g n with ⟨x, _, h⟩ | ⟨_, h⟩ <;> rw [h]
  rw [attr?_addLink, attr?_alloc]
  split
  · rename_i ho; rw [attr?_none_of_ge (Nat.le_of_eq ho.symm)]; rfl
  · rfl

theorem length_openGroupCreate (s : Store) (g : ObjId) (n : String) : s.objs.length ≤ (s.openGroupCreate g n).1.objs.length := by
  rcases openGroupCreate_cases s g n with ⟨x, _, h⟩ | ⟨_, h⟩ <;> rw [h]
  · exact Nat.le_refl _
  · rw [length_addLink, length_alloc]; exact Nat.le_succ _

theorem openGroupCreate_snd_lt (s : Store) (g : ObjId) (n : String) :
    (s.openGroupCreate g n).2 < (s.openGroupCreate g n).1.objs.length := by
  rcases openGroupCreate_cases s g n with ⟨x, hx, h⟩ | ⟨_, h⟩ <;> rw [h]
  · exact isGroupObj_lt (optGroup_some.mp hx).2.2
  · rw [length_addLink, length_alloc]; exact Nat.lt_succ_self _

/-- C08: what a refused call may leave behind (`NoTrace.container`), a container that H5Group::openGroup(name, create = true) made:
    a new group without links, linked from `g` under `n`, every other object as it was.  `hg` rules out `g = s.objs.length`, where
    the model links the new group to itself (H5Group::openGroup on an invalid location throws). -/
theorem openGroupCreate_fresh (s : Store) (g : ObjId) (n : String) (h : s.hasGroup g n = false) (hg : g < s.objs.length) :
    let s' := (s.openGroupCreate g n).1
    let c := (s.openGroupCreate g n).2
    c = s.objs.length ∧ s'.linksOf c = [] ∧ s'.isGroupObj c = true ∧
    (∀ o, o ≠ g → o < s.objs.length → s'.obj? o = s.obj? o) ∧
    (∀ ob, s.obj? g = some ob → s'.obj? g = some { ob with links := ob.links ++ [(n, c)] }) := by
  intro s' c
  have hne : ¬ (s.objs.length = g ∧ ((s.alloc { isGroup := true }).1.obj? g).isSome = true) := fun hc => Nat.ne_of_gt hg hc.1
  simp only [s', c, openGroupCreate_new h]
  refine ⟨trivial, ?_, ?_, fun o hog hlt => ?_, fun ob hob => ?_⟩
  · rw [linksOf_addLink, if_neg hne, linksOf_alloc, if_pos rfl]
  · rw [isGroupObj_addLink, isGroupObj_alloc, if_pos rfl]
  · rw [addLink, obj?_modifyObj, if_neg (Ne.symm hog), obj?_alloc, if_neg (Nat.ne_of_lt hlt)]
  · rw [addLink, obj?_modifyObj, if_pos rfl, obj?_alloc, if_neg (Nat.ne_of_lt hg), hob]; rfl

end Nix.St
