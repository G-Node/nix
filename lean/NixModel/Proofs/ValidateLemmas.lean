import NixModel.Spec.C19
/-
  Lemmas for C19 about the validator, before any entity is looked at.  A `Result` is read through its two projections: what `concat`, `validator`, `must`,
  `should`, `could` contribute to each, and `Sat`, the one predicate ("every error satisfies P, every warning Q") that is
  compositional over them.  Each loop of checks.cpp gets its loop-free equation (`dimsLoop_eq`, `unitsLoop_eq`,
  `refsLoop_eq`, `isSortedFrom_eq`).  `File::validate` is one loop `result.concat(validate(e))` over the entities of the file in walk
  order (`validateFile_eq`), so that it reports, per projection, the per-entity results of every entity (`validateFile_errors`,
  `validateFile_warnings`).
-/
namespace Nix.Validate
open Nix Nix.C19

@[simp] theorem concat_errors (a b : Result) : (a.concat b).errors = a.errors ++ b.errors := rfl
@[simp] theorem concat_warnings (a b : Result) : (a.concat b).warnings = a.warnings ++ b.warnings := rfl
@[simp] theorem empty_errors : Result.empty.errors = [] := rfl
@[simp] theorem empty_warnings : Result.empty.warnings = [] := rfl

theorem foldl_walk {β : Type} (π : Result → List Msg)
    (g : Result → β → Result) (h : β → List Msg) (hg : ∀ r x, π (g r x) = π r ++ h x) (l : List β) (r : Result) :
    π (l.foldl g r) = π r ++ l.flatMap h := by
  induction l generalizing r with
  | nil => simp
  | cons x xs ih => simp [List.foldl_cons, ih, hg, List.append_assoc]

theorem validator_errors (l : List Result) : (validator l).errors = l.flatMap (·.errors) :=
  foldl_walk (·.errors) _ _ (fun _ _ => rfl) l Result.empty
theorem validator_warnings (l : List Result) : (validator l).warnings = l.flatMap (·.warnings) :=
  foldl_walk (·.warnings) _ _ (fun _ _ => rfl) l Result.empty

theorem validator_cons (x : Result) (xs : List Result) : validator (x :: xs) = x.concat (validator xs) :=
  show (⟨(validator (x :: xs)).errors, (validator (x :: xs)).warnings⟩ : Result) = _ by
    rw [validator_errors, validator_warnings, Result.concat, validator_errors, validator_warnings]; rfl

theorem must_errors (p : Bool) (id : String) (c : Cls) (subs : List Result) :
    (must p id c subs).errors = if p then subs.flatMap (·.errors) else [⟨id, c⟩] := by
  cases p <;> simp [must, validator_errors]
theorem must_warnings (p : Bool) (id : String) (c : Cls) (subs : List Result) :
    (must p id c subs).warnings = if p then subs.flatMap (·.warnings) else [] := by
  cases p <;> simp [must, validator_warnings]
theorem should_errors (p : Bool) (id : String) (c : Cls) (subs : List Result) :
    (should p id c subs).errors = if p then subs.flatMap (·.errors) else [] := by
  cases p <;> simp [should, validator_errors]
theorem should_warnings (p : Bool) (id : String) (c : Cls) (subs : List Result) :
    (should p id c subs).warnings = if p then subs.flatMap (·.warnings) else [⟨id, c⟩] := by
  cases p <;> simp [should, validator_warnings]
theorem could_errors (p : Bool) (subs : List Result) :
    (could p subs).errors = if p then subs.flatMap (·.errors) else [] := by
  cases p <;> simp [could, validator_errors]
theorem could_warnings (p : Bool) (subs : List Result) :
    (could p subs).warnings = if p then subs.flatMap (·.warnings) else [] := by
  cases p <;> simp [could, validator_warnings]

variable {α : Type}

/-- loop-free reading of one iteration: the descriptor is of the probed type, describes an existing data dimension,
    and its length mismatches -/
def mism (probe : DimDesc α → Option (Nat → Bool)) (shape : List Nat) (d : DimDesc α) : Bool :=
  match probe d, dataLen shape d with
  | some f, some n => f n
  | _, _ => false

theorem takeWhile_eq_self {β : Type} {p : β → Bool} {l : List β} (h : ∀ x ∈ l, p x = true) : l.takeWhile p = l := by
  simpa using List.takeWhile_append_of_pos (l₂ := []) h

/-- `takeWhile`: the loop `break`s at the first descriptor of the probed type whose index names no data dimension -/
theorem dimsLoop_eq (probe : DimDesc α → Option (Nat → Bool)) (shape : List Nat) (dims : List (DimDesc α)) :
    dimsLoop probe shape dims =
      !(dims.takeWhile fun d => (probe d).isNone || (dataLen shape d).isSome).any (mism probe shape) := by
  induction dims with
  | nil => rfl
  | cons d ds ih =>
    unfold dimsLoop
    cases hp : probe d with
    | none => simp [mism, hp, ih]
    | some f =>
      by_cases h0 : d.index = 0
      · simp [dataLen, hp, h0]
      · cases hs : shape[d.index - 1]? with
        | none => simp [dataLen, hp, h0, hs]
        | some n => cases hf : f n <;> simp [mism, dataLen, hp, h0, hs, hf, ih]

theorem dimsLoop_true (probe : DimDesc α → Option (Nat → Bool)) (shape : List Nat) (dims : List (DimDesc α))
    (h : ∀ d ∈ dims, mism probe shape d = false) : dimsLoop probe shape dims = true := by
  rw [dimsLoop_eq, Bool.not_eq_true', List.any_eq_false]
  exact fun d hd => by simp [h d (List.takeWhile_subset _ hd)]

theorem dimsLoop_inRange (probe : DimDesc α → Option (Nat → Bool)) (shape : List Nat) (dims : List (DimDesc α))
    (hin : ∀ d ∈ dims, 1 ≤ d.index ∧ d.index ≤ shape.length) :
    dimsLoop probe shape dims = !dims.any (mism probe shape) := by
  rw [dimsLoop_eq, takeWhile_eq_self fun d hd => ?_]
  have := hin d hd
  simp [dataLen, show d.index ≠ 0 by omega, show d.index - 1 < shape.length by omega]

theorem dimsLoop_false (probe : DimDesc α → Option (Nat → Bool)) (shape : List Nat) (dims : List (DimDesc α))
    (hin : ∀ d ∈ dims, 1 ≤ d.index ∧ d.index ≤ shape.length)
    (h : ∃ d ∈ dims, mism probe shape d = true) : dimsLoop probe shape dims = false := by
  rw [dimsLoop_inRange probe shape dims hin, Bool.not_eq_false', List.any_eq_true]
  exact h


/-- the condition in the `else` branch of the inner loop (a unit beyond the array's dimensions) is a tautology -/
theorem beyond_dims_taut (tu : String) : (!tu.isEmpty || tu != "none") = true := by
  by_cases h : tu = "none"
  · subst h; decide
  · simp [h]

theorem unitsLoop_eq (du : List String) (us : List String) (i : Nat) (m : Bool) :
    unitsLoop du us i m = (m && !((us.zip (du.drop i)).any fun p => pairBreach p.1 p.2)) := by
  induction us generalizing i m with
  | nil => simp [unitsLoop]
  | cons tu rest ih =>
    -- the loop reads `du[i]?` and moves on to `i + 1`: head and tail of what is left of `du`
    rw [unitsLoop, ih, ← List.head?_drop, List.drop_add_one_eq_tail_drop]
    cases du.drop i with
    | nil => simp [beyond_dims_taut]
    | cons d r =>
      simp only [List.head?_cons, List.tail_cons, List.zip_cons_cons, List.any_cons, pairBreach]
      -- a Boolean identity in the flag and the four tests
      cases m <;> cases d != "none" <;> cases tu.isEmpty <;> cases tu != "none" <;> cases isScalable tu d <;> rfl

theorem refsLoop_eq (units : List String) (refs : List (List String)) (m : Bool) :
    refsLoop units refs m = (m && !refs.any (refBreach units)) := by
  induction refs generalizing m with
  | nil => simp [refsLoop]
  | cons ref rest ih =>
    unfold refsLoop
    simp only [unitsLoop_eq, List.drop_zero, List.any_cons]
    have hrb : ((units.zip ref).any fun p => pairBreach p.1 p.2) = refBreach units ref := rfl
    rw [hrb]
    cases m <;> cases hb : refBreach units ref <;> simp [ih]

/-- the check functor answers false exactly when some unit of the tag, at its own position, is not convertible to the
    unit of the same dimension of some referenced array -/
theorem tagUnitsMatchRefsUnits_eq (units : List String) (refs : List (List String)) :
    tagUnitsMatchRefsUnits units refs = !refs.any (refBreach units) := by
  simp [tagUnitsMatchRefsUnits, refsLoop_eq]


variable [Scalar α]

theorem isSortedFrom_eq (p : α) (l : List α) :
    isSortedFrom p l = !((p :: l).zip l).any (fun q => decide (q.2 < q.1)) := by
  induction l generalizing p with
  | nil => simp [isSortedFrom]
  | cons x xs ih =>
    simp only [isSortedFrom, List.zip_cons_cons, List.any_cons]
    by_cases h : x < p
    · simp [h]
    · simp [h, ih]

/-- `std::is_sorted` answers false exactly when some element is smaller than its predecessor -/
theorem isSorted_eq_not_unsorted (l : List α) : isSorted l = !unsorted l := by
  cases l with
  | nil => simp [isSorted, unsorted]
  | cons x xs => simp [isSorted, unsorted, isSortedFrom_eq]

/-- the `validate(…)` overload the walk applies to an entity -/
def entValidate : Ent α → Result
  | .named n => validateNamed n
  | .array a => validateArray a
  | .dim d => validateDim d
  | .tag t => validateTag t
  | .feature f => validateFeature f
  | .prop p => validateProp p

/-- one step of the walk: `result = result.concat(validate(e))` -/
def visit (r : Result) (e : Ent α) : Result := r.concat (entValidate e)

/-! The nested loops of `File::validate` are one loop of `visit` over the entities in walk order: each level only
    re-brackets the fold (`List.foldl_map`, `List.foldl_flatMap`, `List.foldl_append`). -/

theorem walkTag_eq (r : Result) (t : TagDesc) : walkTag r t = (tagEnts (α := α) t).foldl visit r := by
  rw [tagEnts, List.foldl_cons, List.foldl_map]; rfl

theorem walkArray_eq (r : Result) (a : ArrayDesc α) : walkArray r a = (arrayEnts a).foldl visit r := by
  rw [arrayEnts, List.foldl_cons, List.foldl_map]; rfl

theorem walkSection_eq (r : Result) (s : SectionDesc) : walkSection r s = (sectionEnts (α := α) s).foldl visit r := by
  rw [sectionEnts, List.foldl_cons, List.foldl_map]; rfl

theorem walkBlock_eq (r : Result) (b : BlockDesc α) : walkBlock r b = (blockEnts b).foldl visit r := by
  simp only [blockEnts, List.foldl_cons, List.foldl_append, List.foldl_flatMap, List.foldl_map, ← walkArray_eq, ← walkTag_eq]; rfl

theorem validateFile_eq (d : FileDesc α) : validateFile d = (entities d).foldl visit Result.empty := by
  simp only [entities, List.foldl_append, List.foldl_flatMap, ← walkBlock_eq, ← walkSection_eq]; rfl

/-- the errors `File::validate` reports are the errors of the per-entity validations, for every entity of the file -/
theorem validateFile_errors (d : FileDesc α) :
    (validateFile d).errors = (entities d).flatMap (fun e => (entValidate e).errors) :=
  validateFile_eq d ▸ foldl_walk (·.errors) visit _ (fun _ _ => rfl) _ _

theorem validateFile_warnings (d : FileDesc α) :
    (validateFile d).warnings = (entities d).flatMap (fun e => (entValidate e).warnings) :=
  validateFile_eq d ▸ foldl_walk (·.warnings) visit _ (fun _ _ => rfl) _ _


def Sat (P Q : Msg → Prop) (r : Result) : Prop := (∀ m ∈ r.errors, P m) ∧ (∀ m ∈ r.warnings, Q m)

theorem errors_nil_iff (r : Result) : r.errors = [] ↔ Sat (fun _ => False) (fun _ => True) r := by
  simp [Sat, List.eq_nil_iff_forall_not_mem]
theorem warnings_nil_iff (r : Result) : r.warnings = [] ↔ Sat (fun _ => True) (fun _ => False) r := by
  simp [Sat, List.eq_nil_iff_forall_not_mem]

section sat
variable (P Q : Msg → Prop)

@[simp] theorem sat_empty : Sat P Q Result.empty := by simp [Sat]
@[simp] theorem sat_concat (a b : Result) : Sat P Q (a.concat b) ↔ Sat P Q a ∧ Sat P Q b := by
  simp only [Sat, concat_errors, concat_warnings, List.mem_append, or_imp, forall_and, and_and_and_comm]
@[simp] theorem sat_nil : Sat P Q (validator []) := sat_empty P Q
@[simp] theorem sat_cons (x : Result) (xs : List Result) : Sat P Q (validator (x :: xs)) ↔ Sat P Q x ∧ Sat P Q (validator xs) := by
  rw [validator_cons, sat_concat]
@[simp] theorem sat_must (p : Bool) (s : String) (c : Cls) (subs : List Result) :
    Sat P Q (must p s c subs) ↔ if p then Sat P Q (validator subs) else P ⟨s, c⟩ := by
  cases p
  · simp [must, Sat]
  · simp [must]
@[simp] theorem sat_should (p : Bool) (s : String) (c : Cls) (subs : List Result) :
    Sat P Q (should p s c subs) ↔ if p then Sat P Q (validator subs) else Q ⟨s, c⟩ := by
  cases p
  · simp [should, Sat]
  · simp [should]
@[simp] theorem sat_could (p : Bool) (subs : List Result) :
    Sat P Q (could p subs) ↔ (p = true → Sat P Q (validator subs)) := by
  cases p <;> simp [could]
end sat

end Nix.Validate
