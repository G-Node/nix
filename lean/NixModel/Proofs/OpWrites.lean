import NixModel.Proofs.Footprint
/-
  The attribute footprint of every entry point (`apply_writes`): a creating one initialises ONE NEW object with the id it was
  handed, a plain setter writes the key it names, nothing else touches an attribute.
-/
namespace Nix.St
open Store

variable {W : ObjId → String → Option String → Prop}

theorem createBlock_writes (s : Store) (n t i c : String) :
    Writes (onNew s.objs.length (s.openGroupCreate dataGrp n).2 i) s (createBlock s n t i c).1 :=
  (createBlock_shape s n t i c).elim (.refl s) fun h => .named_top h.2 ..

theorem addReference_writes (s : Store) (t b : ObjId) (k : String) : Writes W s (addReference s t b k).1 := by
  -- the rewrite first: left to unify `addReference ..` with `linkById ..` by unfolding, `exact` runs out of heartbeats
  rw [addReference_eq]; exact (Writes.openGroupCreate ..).trans (.linkById ..)

theorem addMember_writes (s : Store) (g b : ObjId) (k n i : String) : Writes W s (addMember s g b k n i).1 := by
  rw [addMember_eq]; exact (Writes.openGroupCreate ..).trans (.linkById ..)

theorem addSource_writes (s : Store) (o b : ObjId) (id : String) : Writes W s (addSource s o b id).1 := by
  rw [addSource_eq]; split
  · exact .refl s
  · exact (Writes.openGroupCreate ..).trans (.linkById ..)

theorem Writes.of_unlinkedOne {s s' : Store} {a : ObjId} {cn : String} (h : UnlinkedOne s a cn s') : Writes W s s' := by
  rcases h with e | ⟨c, n, _, e⟩ <;> rw [e]
  · exact .refl s
  · exact .unlink s c n

def Op.newId : Op → Option String
  | .createBlock _ _ i _ | .createSection _ _ _ i _ | .createSubSource _ _ _ i _ | .createGroup _ _ _ i _ | .createSource _ _ _ i _
  | .createDataArray _ _ _ i _ _ _ | .createDataFrame _ _ _ i _ _ _ _ | .createTag _ _ _ i _ _ | .createMultiTag _ _ _ i _ _
  | .createProperty _ _ i _ _ | .createFeature _ _ i _ _ _ => some i
  | _ => none

/-- the side conditions of `apply_writes` and of what is read off it (`entity_id_immutable`, `apply_idStep`): handles denote
    objects, setters do not address the id attribute (no front-end setter does), and a new feature id is not the name of an
    existing feature of the tag (fresh ids) -/
def Op.idSafe (s : Store) : Op → Prop
  | .createSection p _ _ _ _ => ∀ x, p = some x → x < s.objs.length
  | .createSubSource p _ _ _ _ => p < s.objs.length
  | .createGroup b _ _ _ _ | .createSource b _ _ _ _ | .createDataArray b _ _ _ _ _ _ | .createDataFrame b _ _ _ _ _ _ _
  | .createTag b _ _ _ _ _ | .createMultiTag b _ _ _ _ _ => b < s.objs.length
  | .createProperty sec _ _ _ _ => sec < s.objs.length
  | .createFeature tag _ id _ _ _ => tag < s.objs.length ∧ ∀ x, s.optGroup tag "features" = some x → s.hasGroup x id = false
  | .setNonEmpty _ k _ | .unsetAttr _ k | .setAttr _ k _ => k ≠ "entity_id"
  | _ => True

def Op.mayWrite (n : Nat) (g : ObjId) (op : Op) : ObjId → String → Option String → Prop := fun o k v =>
  match op.newId with
  | some i => onNew n g i o k v
  | none => k ≠ "entity_id"

theorem apply_writes (s : Store) (op : Op) (hsafe : op.idSafe s) : ∃ g, Writes (op.mayWrite s.objs.length g) s (op.apply s).1 := by
  have unit {α : Type} {W : ObjId → String → Option String → Prop} (r : Res α) (hr : Writes W s r.1) : Writes W s (unitRes r).1 :=
    unitRes_fst r ▸ hr
  cases op with
  | createBlock n t i c => exact ⟨_, unit _ (createBlock_writes s n t i c)⟩
  | createSection p n t i c =>
    cases p with
    | none => exact ⟨_, unit _ <| (createSectionIn_none_shape s n t i c).elim (.refl s) fun h => .named_top h.2 ..⟩
    | some p => exact ⟨_, unit _ <| (createSectionIn_some_shape s p n t i c).elim (.refl s) fun h => .named_mk2 (hsafe p rfl) h ..⟩
  | createSubSource p n t i c => exact ⟨_, unit _ <| (createSourceIn_shape s p n t i c).elim (.refl s) fun h => .named_mk2 hsafe h ..⟩
  | createGroup b n t i c | createSource b n t i c =>
    exact ⟨_, unit _ <| (createInBlock_shape s b _ n t i c).elim (.refl s) fun h => .named_mk2 hsafe h ..⟩
  | createDataArray b n t i c dt sh =>
    exact ⟨_, unit _ <| (createDataArray_shape s b n t i c dt sh).elim (.refl s) fun h =>
      have hg := mk2_new hsafe h
      ((Writes.named_mk2 hsafe h ..).trans (.setAttr _ (.other hg (by decide)))).trans (.setAttr _ (.other hg (by decide)))⟩
  | createDataFrame b n t i c ns ts cols =>
    exact ⟨_, unit _ <| (createDataFrame_shape s b n t i c ns ts cols).elim (.refl s) fun h =>
      (Writes.named_mk2 hsafe h ..).trans (.setAttr _ (.other (mk2_new hsafe h) (by decide)))⟩
  | createTag b n t i c pos =>
    exact ⟨_, unit _ <| (createTag_shape s b n t i c pos).elim (.refl s) fun h =>
      (Writes.named_mk2 hsafe h ..).trans (.setAttr _ (.other (mk2_new hsafe h) (by decide)))⟩
  | createMultiTag b n t i c ph =>
    cases ph with
    | none => obtain ⟨_, h⟩ := createMultiTag_none s b n t i c; exact ⟨0, unit _ (h ▸ .refl s)⟩
    | some ph =>
      exact ⟨_, unit _ <| (createMultiTag_shape s b n t i c ph).elim (.refl s) fun h =>
        (Writes.named_mk2 hsafe h.1 ..).trans (.thenArrayLink ..)⟩
  | createProperty sec n i c dt =>
    have hd := length_openGroupCreate s sec "properties"
    exact ⟨_, unit _ <| (createProperty_shape s sec n i c dt).elim (.refl s) fun _ =>
      (((((((Writes.openGroupCreate s sec "properties").trans (.alloc _ _ rfl)).trans (.addLink ..)).trans
        (.setAttr _ ⟨rfl, hd, fun _ => rfl⟩)).trans (.setAttr _ (.other hd (by decide)))).trans (.setAttr _ (.other hd (by decide)))).trans
        (.setAttr _ (.other hd (by decide))))⟩
  | createFeature tg b i c lt dh =>
    cases dh with
    | none => exact ⟨0, unit _ (.refl s)⟩
    | some dh =>
      have hg := mk2_new hsafe.1 hsafe.2
      exact ⟨_, unit _ <| (createFeature_shape s tg b i c lt dh).elim (.refl s) fun _ =>
        ((((Writes.mk2 s tg "features" i).trans (.setAttr _ ⟨rfl, hg, fun _ => rfl⟩)).trans (.setAttr _ (.other hg (by decide)))).trans
          (.setAttr _ (.other hg (by decide)))).trans (.thenArrayLink ..)⟩
  | setSectionLink o f id => exact ⟨0, (setSectionLink_shape s o f id).elim (.refl s) fun _ => .relink ..⟩
  | unsetLink o f => exact ⟨0, .removeGroup ..⟩
  | setArrayLink o b f k => exact ⟨0, .setArrayLink ..⟩
  | setExtents m b k => exact ⟨0, (setExtents_shape s m b k).elim (.refl s) fun _ => .relink ..⟩
  | addReference t b k => exact ⟨0, addReference_writes s t b k⟩
  | addSource o b id => exact ⟨0, addSource_writes s o b id⟩
  | addMember g b k n i => exact ⟨0, addMember_writes s g b k n i⟩
  | setNonEmpty o k v =>
    refine ⟨0, ?_⟩
    show Writes _ s (setNonEmpty s o k v).1
    unfold setNonEmpty; split
    · exact .refl s
    · exact .setAttr s hsafe
  | unsetAttr o k => exact ⟨0, .removeAttr s hsafe⟩
  | setAttr o k v => exact ⟨0, .setAttr s hsafe⟩
  | deleteBlock k => exact ⟨0, .of_unlinks (deleteBlock_unlinks_below s k)⟩
  | deleteSection p k => exact ⟨0, .of_unlinks (deleteSection_unlinks_below s p k)⟩
  | deleteSubSource p k => exact ⟨0, .of_unlinks (deleteSubSource_unlinks_below s p k)⟩
  | deleteBlockSource b k => exact ⟨0, .of_unlinks (deleteBlockSource_unlinks_below s b k)⟩
  | removeEntity b kd n i => exact ⟨0, .of_unlinks (removeEntity_unlinks_below s b kd n i)⟩
  | deleteProperty sec k => exact ⟨0, .of_unlinkedOne (deleteProperty_unlinkedOne s sec k)⟩
  | removeReference t b k => exact ⟨0, .of_unlinkedOne (removeReference_unlinkedOne s t b k)⟩
  | removeSource o id => exact ⟨0, .of_unlinkedOne (removeSource_unlinkedOne s o id)⟩
  | removeMember g kd n i => exact ⟨0, .of_unlinkedOne (removeMember_unlinkedOne s g kd n i)⟩

end Nix.St
