import NixModel.Step
import NixModel.Proofs.Lookup
/-
  What each entry point does to the store, said once and without any invariant: it answers with an exception and the store is
  the old one, or — its guards having held — its result is the one written out here (`Shape`).  The invariants (`Sys`, `WT`), the
  attribute footprint (`Writes`), `Extends` and C08 (`*_rejected`) are then shown for the handful of stores that occur on the
  right-hand sides, not by walking through each entry point again.
-/
namespace Nix.St
open Store

theorem unitRes_fst {α : Type} (r : Res α) : (unitRes r).1 = r.1 := by
  obtain ⟨s, x⟩ := r; cases x <;> rfl

/-- `r`, the outcome of an entry point called on `s`: refused with `s` untouched, or — `G` being what its guards leave known —
    the result `y` written out from primitives -/
def Shape {α : Type} (s : Store) (G : Prop) (y r : Res α) : Prop := (∃ e, r = (s, .error e)) ∨ (G ∧ r = y)

namespace Shape
variable {α : Type} {s : Store} {G : Prop} {y r : Res α}

theorem refused (e : Err) : Shape s G y (s, .error e) := .inl ⟨e, rfl⟩

theorem guard {x : Res α} {c : Prop} [Decidable c] {e0 : Err} (h : ¬ c → Shape s G y x) :
    Shape s G y (if c then (s, .error e0) else x) := by
  split
  · exact .refused e0
  · exact h ‹_›

-- `(generalizing := false)`: otherwise `h`, which mentions `c`, is taken into the `match`, and this is not the `match` of the entry points
theorem checked {x : Res α} {c : Except Err Unit} (h : c = .ok () → Shape s G y x) :
    Shape s G y (match (generalizing := false) c with
      | .error e => (s, .error e)
      | .ok () => x) := by
  cases c with
  | error e => exact .refused e
  | ok u => exact h rfl

theorem and {G' : Prop} (h : Shape s G y r) (h' : G') : Shape s (G ∧ G') y r := h.imp_right fun ⟨hG, e⟩ => ⟨⟨hG, h'⟩, e⟩

theorem elim {P : Store → Prop} (h : Shape s G y r) (hs : P s) (hy : G → P y.1) : P r.1 := by
  rcases h with ⟨_, h⟩ | ⟨hG, h⟩ <;> rw [h]
  · exact hs
  · exact hy hG

theorem of_ok (h : Shape s G y r) {s1 : Store} {a : α} (hr : r = (s1, .ok a)) : G ∧ y = (s1, .ok a) := by
  rcases h with ⟨_, h⟩ | ⟨hG, h⟩ <;> rw [h] at hr
  · cases hr
  · exact ⟨hG, hr⟩

theorem handle (h : Shape s G y r) {a : α} (hr : r.2 = .ok a) : y.2 = .ok a :=
  (h.of_ok (Prod.ext rfl hr : r = (r.1, .ok a))).2 ▸ rfl

end Shape

/-- a two-level creator: the container `cn` on demand under `par`, then the entity group `n` in it -/
def mk2 (s : Store) (par : ObjId) (cn n : String) : Store × ObjId :=
  (s.openGroupCreate par cn).1.openGroupCreate (s.openGroupCreate par cn).2 n

/-- the NamedEntity constructor on the group just made, after the front-end checks -/
def named (p : Store × ObjId) (id type name created : String) : Store :=
  (((p.1.setAttr p.2 "entity_id" id).setAttr p.2 "created_at" created).setAttr p.2 "type" type).setAttr p.2 "name" name

/-- what the duplicate check of a two-level creator leaves known -/
def NoDup2 (s : Store) (par : ObjId) (cn n : String) : Prop := ∀ x, s.optGroup par cn = some x → s.hasGroup x n = false

theorem mk2_new {s : Store} {par : ObjId} {cn n : String} (hpar : par < s.objs.length) (hd : NoDup2 s par cn n) :
    s.objs.length ≤ (mk2 s par cn n).2 := by
  have hnew : (s.openGroupCreate par cn).1.hasGroup (s.openGroupCreate par cn).2 n = false := by
    rcases openGroupCreate_cases s par cn with ⟨x, hx, h⟩ | ⟨hf, _⟩
    · rw [h]; exact hd x hx
    · exact hasGroup_of_child_none (by rw [child?, (openGroupCreate_fresh s par cn hf hpar).2.1]; rfl)
  rw [mk2, openGroupCreate_new hnew]
  exact length_openGroupCreate s par cn

/-- the duplicate check of Section::createSection / Source::createSource (the container looked up first), passed -/
theorem noDup2_of_existing {s : Store} {p : ObjId} {cn n : String} (hn : n.isEmpty = false)
    (h : (match s.optGroup p cn with
      | some c => s.findGroupByNameOrAttribute c "entity_id" n
      | none => none) = none) : NoDup2 s p cn n := by
  intro x hx
  rw [hx] at h
  exact hasGroup_of_child_none (child?_none_of_byName hn h)

/-- the skeleton of the five creators of named entities (`dup`: the duplicate check; `p`: the store with the new group, and that group) -/
theorem Shape.create {s : Store} {n t i c : String} {dup : Option ObjId} {G : Prop} {p : Store × ObjId}
    (hG : n.isEmpty = false → dup = none → G) :
    Shape s G (named p i t n c, .ok p.2)
      (match checkNameAndType n t with
        | .error e => (s, .error e)
        | .ok () =>
          if dup.isSome then (s, .error .duplicateName) else
          match initNamed p.1 p.2 i t n c with
          | (s, .error e) => (s, .error e)
          | (s, .ok ()) => (s, .ok p.2)) := by
  refine .checked fun hc => .guard fun hd => ?_
  have ⟨hn, _, ht⟩ := checkNameAndType_ok hc
  rw [initNamed_ok _ _ _ _ _ _ hn ht]
  exact .inr ⟨hG hn (by simpa using hd), rfl⟩

theorem createBlock_shape (s : Store) (n t i c : String) :
    Shape s (n.isEmpty = false ∧ s.child? dataGrp n = none)
      (named (s.openGroupCreate dataGrp n) i t n c, .ok (s.openGroupCreate dataGrp n).2) (createBlock s n t i c) :=
  Shape.create fun hn hd => ⟨hn, child?_none_of_byName hn hd⟩

theorem createSectionIn_none_shape (s : Store) (n t i c : String) :
    Shape s (n.isEmpty = false ∧ s.child? metadataGrp n = none)
      (named (s.openGroupCreate metadataGrp n) i t n c, .ok (s.openGroupCreate metadataGrp n).2) (createSectionIn s none n t i c) :=
  Shape.create fun hn hd => ⟨hn, child?_none_of_byName hn hd⟩

theorem createSectionIn_some_shape (s : Store) (p : ObjId) (n t i c : String) :
    Shape s (NoDup2 s p "sections" n) (named (mk2 s p "sections" n) i t n c, .ok (mk2 s p "sections" n).2)
      (createSectionIn s (some p) n t i c) :=
  Shape.create noDup2_of_existing

theorem createSourceIn_shape (s : Store) (p : ObjId) (n t i c : String) :
    Shape s (NoDup2 s p "sources" n) (named (mk2 s p "sources" n) i t n c, .ok (mk2 s p "sources" n).2) (createSourceIn s p n t i c) :=
  Shape.create noDup2_of_existing

-- `blockContainer` sealed: the unifier would otherwise unfold `blockContainer k` at each occurrence, which takes four times as long
attribute [local irreducible] blockContainer in
theorem createInBlock_shape (s : Store) (b : ObjId) (k n t i c : String) :
    Shape s (NoDup2 s b (blockContainer k) n) (named (mk2 s b (blockContainer k) n) i t n c, .ok (mk2 s b (blockContainer k) n).2)
      (createInBlock s b k n t i c) :=
  Shape.create fun _ hd x hx => blkFind_none_hasGroup s b x k n hx hd

theorem Shape.afterCreateInBlock {s : Store} {b : ObjId} {k n t i c : String} (post : Store → ObjId → Res ObjId) :
    Shape s (NoDup2 s b (blockContainer k) n) (post (named (mk2 s b (blockContainer k) n) i t n c) (mk2 s b (blockContainer k) n).2)
      (match createInBlock s b k n t i c with
        | (s, .error e) => ((s, .error e) : Res ObjId)
        | (s, .ok g) => post s g) := by
  rcases createInBlock_shape s b k n t i c with ⟨e, he⟩ | ⟨hG, he⟩ <;> rw [he]
  · exact .refused e
  · exact .inr ⟨hG, rfl⟩

theorem createTag_shape (s : Store) (b : ObjId) (n t i c pos : String) :
    Shape s (NoDup2 s b "tags" n) ((named (mk2 s b "tags" n) i t n c).setAttr (mk2 s b "tags" n).2 "ds:position" pos, .ok (mk2 s b "tags" n).2)
      (createTag s b n t i c pos) :=
  Shape.afterCreateInBlock (k := "T") fun s g => (s.setAttr g "ds:position" pos, .ok g)

theorem createDataArray_shape (s : Store) (b : ObjId) (n t i c dt sh : String) :
    Shape s (NoDup2 s b "data_arrays" n) (((named (mk2 s b "data_arrays" n) i t n c).setAttr (mk2 s b "data_arrays" n).2 "ds:dtype" dt).setAttr
        (mk2 s b "data_arrays" n).2 "ds:shape" sh, .ok (mk2 s b "data_arrays" n).2)
      (createDataArray s b n t i c dt sh) := by
  unfold createDataArray
  exact .checked fun _ => .guard fun _ => .guard fun _ => .guard fun _ =>
    Shape.afterCreateInBlock (k := "A") fun s g => ((s.setAttr g "ds:dtype" dt).setAttr g "ds:shape" sh, .ok g)

theorem createDataFrame_shape (s : Store) (b : ObjId) (n t i c : String) (ns ts : List String) (cols : String) :
    Shape s (NoDup2 s b "data_frames" n) ((named (mk2 s b "data_frames" n) i t n c).setAttr (mk2 s b "data_frames" n).2 "ds:cols" cols,
        .ok (mk2 s b "data_frames" n).2)
      (createDataFrame s b n t i c ns ts cols) := by
  unfold createDataFrame
  refine .checked fun _ => .guard fun _ => .guard fun _ => ?_
  cases createDataFrame.scan [] ns ts with
  | some e => exact .refused e
  | none => exact Shape.afterCreateInBlock (k := "D") fun s g => (s.setAttr g "ds:cols" cols, .ok g)

/-- a setter of a single link `f` (metadata, positions, extents, data): the old link goes, the one to the target looked up comes -/
def relink (s : Store) (holder : ObjId) (f : String) (target : Option ObjId) : Res Unit :=
  match target with
  | none => (s, .error .stdRuntime)
  | some a => ((s.removeGroup holder f).addLink holder f a, .ok ())

theorem setArrayLink_eq (s : Store) (holder b : ObjId) (f key : String) :
    setArrayLink s holder b f key = relink s holder f (blkFindKey s b "A" key) := by
  unfold setArrayLink relink; cases blkFindKey s b "A" key <;> rfl

theorem setSectionLink_shape (s : Store) (holder : ObjId) (f id : String) :
    Shape s True (relink s holder f (findSectionById s id)) (setSectionLink s holder f id) := by
  unfold setSectionLink relink
  refine .guard fun _ => .inr ⟨trivial, ?_⟩
  cases findSectionById s id <;> rfl

theorem setExtents_shape (s : Store) (mt b : ObjId) (key : String) :
    Shape s True (relink s mt "extents" (blkFindKey s b "A" key)) (setExtents s mt b key) := by
  unfold setExtents relink
  cases blkFindKey s b "A" key with
  | none => exact .inr ⟨trivial, rfl⟩
  | some a =>
    cases s.optGroup mt "positions" with
    | none => exact .refused _
    | some p => exact .guard fun _ => .guard fun _ => .inr ⟨trivial, rfl⟩

/-- the tail of the two creators that link an array to the entity `g` just made, and hand `g` back -/
def thenArrayLink (s : Store) (g b : ObjId) (f key : String) : Res ObjId :=
  match setArrayLink s g b f key with
  | (s, .error e) => (s, .error e)
  | (s, .ok ()) => (s, .ok g)

theorem thenArrayLink_fst (s : Store) (g b : ObjId) (f key : String) : (thenArrayLink s g b f key).1 = (setArrayLink s g b f key).1 := by
  unfold thenArrayLink
  generalize setArrayLink s g b f key = r
  obtain ⟨s1, x⟩ := r; cases x <;> rfl

theorem thenArrayLink_handle {s : Store} {g b a : ObjId} {f key : String} (h : (thenArrayLink s g b f key).2 = .ok a) : a = g := by
  unfold thenArrayLink at h
  split at h <;> cases h
  rfl

theorem thenArrayLink_ok {s : Store} {g b : ObjId} {f key : String} (h : blkFindKey s b "A" key ≠ none) (e : Err) :
    (thenArrayLink s g b f key).2 ≠ .error e := by
  unfold thenArrayLink setArrayLink
  cases hk : blkFindKey s b "A" key with
  | none => exact absurd hk h
  | some a => exact fun h' => by cases h'

theorem createMultiTag_none (s : Store) (b : ObjId) (n t i c : String) : ∃ e, createMultiTag s b n t i c none = (s, .error e) := by
  unfold createMultiTag
  cases checkNameAndType n t with
  | error e => exact ⟨e, rfl⟩
  | ok u => exact ⟨_, rfl⟩

theorem createMultiTag_shape (s : Store) (b : ObjId) (n t i c : String) (h : Handle) :
    Shape s (NoDup2 s b "multi_tags" n ∧ blkFindHandle s b "A" h ≠ none)
      (thenArrayLink (named (mk2 s b "multi_tags" n) i t n c) (mk2 s b "multi_tags" n).2 b "positions"
        (idOf (named (mk2 s b "multi_tags" n) i t n c) h.obj))
      (createMultiTag s b n t i c (some h)) := by
  unfold createMultiTag
  exact .checked fun _ => .guard fun _ => .guard fun _ => .guard fun hf =>
    (Shape.afterCreateInBlock (k := "M") fun s g => thenArrayLink s g b "positions" (idOf s h.obj)).and (by simpa using hf)

theorem createFeature_none (s : Store) (tag b : ObjId) (i c lt : String) : ∃ e, createFeature s tag b i c lt none = (s, .error e) :=
  ⟨_, rfl⟩

theorem createFeature_shape (s : Store) (tag b : ObjId) (i c lt : String) (h : Handle) :
    Shape s (blkFindKey s b "A" (idOf s h.obj) ≠ none)
      (thenArrayLink ((((mk2 s tag "features" i).1.setAttr (mk2 s tag "features" i).2 "entity_id" i).setAttr
          (mk2 s tag "features" i).2 "created_at" c).setAttr (mk2 s tag "features" i).2 "link_type" lt)
        (mk2 s tag "features" i).2 b "data" (idOf s h.obj))
      (createFeature s tag b i c lt (some h)) := by
  unfold createFeature
  exact .guard fun _ => .guard fun hf => .inr ⟨by simpa using hf, rfl⟩

/-- a property is a data set, not a group: a new object linked under `n` in the container `p.2`, then its four attributes -/
def propertyIn (p : Store × ObjId) (n id created dt : String) : Store :=
  ((((((p.1.alloc { isGroup := false }).1.addLink p.2 n p.1.objs.length).setAttr p.1.objs.length "entity_id" id).setAttr p.1.objs.length
    "created_at" created).setAttr p.1.objs.length "name" n).setAttr p.1.objs.length "ds:dtype" dt)

theorem createProperty_shape (s : Store) (sec : ObjId) (n i c dt : String) :
    Shape s (∀ c0, s.optGroup sec "properties" = some c0 → s.child? c0 n = none)
      (propertyIn (s.openGroupCreate sec "properties") n i c dt, .ok (s.openGroupCreate sec "properties").1.objs.length)
      (createProperty s sec n i c dt) := by
  unfold createProperty
  refine .checked fun hc => .guard fun h1 => .guard fun _ => .inr ⟨fun c0 hc0 => ?_, rfl⟩
  have h1 : s.findDataByNameOrAttribute c0 "entity_id" n = none := by simpa [hc0] using h1
  exact child?_none_of_byName (checkName_ok hc).1 h1

/-- the `add*` entry points after their container `c` is there: the target looked up is linked under the name `nm` gives it (its id),
    unless `c` has a link of that name -/
def linkById (s : Store) (c : ObjId) (nm : ObjId → String) (target : Option ObjId) : Res Unit :=
  match target with
  | none => (s, .error .stdRuntime)
  | some a => if s.hasObject c (nm a) then (s, .error .h5Error) else (s.addLink c (nm a) a, .ok ())

-- `(rfl)`, not `rfl`: these three are only ever rewritten with; offered to `dsimp` as well, each would be checked twice more
theorem addReference_eq (s : Store) (tag b : ObjId) (key : String) :
    addReference s tag b key = linkById (s.openGroupCreate tag "references").1 (s.openGroupCreate tag "references").2
      (idOf (s.openGroupCreate tag "references").1) (blkFindKey (s.openGroupCreate tag "references").1 b "A" key) := (rfl)

theorem addMember_eq (s : Store) (grp b : ObjId) (k n i : String) :
    addMember s grp b k n i = linkById (s.openGroupCreate grp (groupContainer k)).1 (s.openGroupCreate grp (groupContainer k)).2
      (idOf (s.openGroupCreate grp (groupContainer k)).1) (blkFind (s.openGroupCreate grp (groupContainer k)).1 b k n i) := (rfl)

theorem addSource_eq (s : Store) (holder b : ObjId) (id : String) :
    addSource s holder b id = if id.isEmpty then (s, .error .emptyString) else
      linkById (s.openGroupCreate holder "sources").1 (s.openGroupCreate holder "sources").2 (fun _ => id)
        (findSourceById (s.openGroupCreate holder "sources").1 b id) := (rfl)

/-- what the four deletes that do not recurse do: nothing, or ONE link leaves the container `cn` of `a` -/
def UnlinkedOne (s : Store) (a : ObjId) (cn : String) (s' : Store) : Prop :=
  s' = s ∨ ∃ c n, s.optGroup a cn = some c ∧ s' = s.unlink c n

theorem removeGroup_unlinkedOne {s : Store} {a c : ObjId} {cn : String} (hc : s.optGroup a cn = some c) (n : String) :
    UnlinkedOne s a cn (s.removeGroup c n) :=
  (removeGroup_cases s c n).symm.imp_right fun h => ⟨_, _, hc, h⟩

theorem deleteProperty_unlinkedOne (s : Store) (sec : ObjId) (key : String) :
    UnlinkedOne s sec "properties" (deleteProperty s sec key).1 := by
  unfold deleteProperty
  split
  · exact .inl rfl
  · rename_i c hc
    split
    · exact .inl rfl
    · exact (removeData_cases s _ _).symm.imp_right fun h => ⟨_, _, hc, h⟩

theorem removeReference_unlinkedOne (s : Store) (t b : ObjId) (key : String) :
    UnlinkedOne s t "references" (removeReference s t b key).1 := by
  unfold removeReference
  split
  · rename_i hc _; exact removeGroup_unlinkedOne hc _
  · exact .inl rfl

theorem removeSource_unlinkedOne (s : Store) (holder : ObjId) (id : String) :
    UnlinkedOne s holder "sources" (removeSource s holder id).1 := by
  unfold removeSource
  split
  · rename_i hc; exact removeGroup_unlinkedOne hc _
  · exact .inl rfl

theorem removeMember_unlinkedOne (s : Store) (g : ObjId) (k n i : String) :
    UnlinkedOne s g (groupContainer k) (removeMember s g k n i).1 := by
  unfold removeMember
  split
  · rename_i hc _; exact removeGroup_unlinkedOne hc _
  · exact .inl rfl

end Nix.St
