import NixModel.Proofs.IndexSound
/-
  The range kernel `getIndex`: `std::lower_bound` finds the cut at `· < p` of a strictly ascending tick list, and every branch of
  the kernel is the answer `ofCuts` gives.
-/
open Std
namespace Nix.C07
open Nix Scalar

section
variable {α : Type} [Scalar α]

def Sorted (l : List α) : Prop := l.Pairwise (· < ·)

theorem lowerBound_le_length (p : α) (l : List α) : lowerBound p l ≤ l.length := by
  induction l with
  | nil => simp [lowerBound]
  | cons t ts ih => simp only [lowerBound]; split <;> simp <;> omega

theorem lowerBound_spec (p : α) : ∀ (l : List α),
    (∀ i (h : i < lowerBound p l), l[i]'(Nat.lt_of_lt_of_le h (lowerBound_le_length p l)) < p) ∧
    (∀ h : lowerBound p l < l.length, ¬ l[lowerBound p l] < p)
  | [] => ⟨fun _ h => absurd h (Nat.not_lt_zero _), fun h => absurd h (Nat.not_lt_zero _)⟩
  | t :: ts => by
    have ih := lowerBound_spec p ts
    simp only [lowerBound]
    split
    · rename_i htp
      refine ⟨fun i h => ?_, fun h => by simpa using ih.2 (by simpa using h)⟩
      cases i with
      | zero => exact htp
      | succ j => simpa using ih.1 j (by omega)
    · rename_i htp
      exact ⟨fun _ h => absurd h (Nat.not_lt_zero _), fun _ => htp⟩

theorem rangeAxis_valid (ticks : List α) (i : Nat) : (rangeAxis ticks).valid i ↔ i < ticks.length := by
  simp [rangeAxis, Axis.valid]

theorem rangeAxis_coord (ticks : List α) (i : Nat) (h : i < ticks.length) : (rangeAxis ticks).coord i = ticks[i] := by
  simp [rangeAxis, List.getD, List.getElem?_eq_getElem h]

theorem rangeAxis_strictMono (ticks : List α) (hs : Sorted ticks) : (rangeAxis ticks).StrictMono := by
  intro i j hj hij
  have hj' := (rangeAxis_valid ticks j).1 hj
  rw [rangeAxis_coord ticks i (by omega), rangeAxis_coord ticks j hj']
  exact List.pairwise_iff_getElem.mp hs i j (by omega) hj' hij

theorem lowerBound_isCut (p : α) (l : List α) : (rangeAxis l).IsCut (· < p) (lowerBound p l) := by
  have hle := lowerBound_le_length p l
  obtain ⟨h1, h2⟩ := lowerBound_spec p l
  constructor
  · rcases Nat.eq_zero_or_pos (lowerBound p l) with h0 | hpos
    · exact .inl h0
    · have hi : lowerBound p l - 1 < l.length := by omega
      exact .inr ⟨(rangeAxis_valid l _).2 hi, by rw [rangeAxis_coord l _ hi]; exact h1 _ (by omega)⟩
  · intro h
    have hi := (rangeAxis_valid l _).1 h
    rw [rangeAxis_coord l _ hi]
    exact h2 hi

/-- By `rw` and `rfl`: `simp` and `split` are slow on this ladder of `if`s, every test carrying one of `Scalar`'s decidability
    instances; `getIndex_ofCuts` takes the branches with `by_cases` and `if_pos` for the same reason. -/
theorem getIndex_eq (p : α) (l : List α) (hn : 0 < l.length) (m : PositionMatch) :
    getIndex p l m =
      if p < l[0] then (if m.isGreater then some 0 else none)
      else if l[l.length - 1] < p then (if m.isLess then some (l.length - 1) else none)
      else
        let lo := lowerBound p l
        match l[lo]? with
        | none => none
        | some tl =>
          if m.isGreater then
            if m == .greater && beq tl p then (if lo + 1 < l.length then some (lo + 1) else none) else some lo
          else if m == .lessOrEqual && p < tl then (if 1 ≤ lo then some (lo - 1) else none)
          else if m == .less && p ≤ tl then (if 1 ≤ lo then some (lo - 1) else none)
          else if beq tl p then some lo else none := by
  cases l with
  | nil => cases hn
  | cons t0 rest => rw [getIndex, List.getLast_eq_getElem]; rfl

end

variable {α : Type} [Scalar α] [IsLinearOrder α] [LawfulOrderLT α] [LawfulScalarEq α]

set_option linter.unusedSectionVars false in
theorem rangeAxis_len (l : List α) : (rangeAxis l).len = some l.length := rfl

set_option linter.unusedVariables false in
set_option linter.unusedSectionVars false in
/-- the raw `*lower` access of `getIndex` is in range whenever it is reached -/
theorem range_deref_safe (ticks : List α) (hs : Sorted ticks) (hne : ticks ≠ []) (p : α)
    (h1 : ¬ p < ticks[0]'(List.length_pos_iff.mpr hne))
    (h2 : ¬ ticks[ticks.length - 1]'(by have := List.length_pos_iff.mpr hne; omega) < p) :
    lowerBound p ticks < ticks.length := by
  have hn := List.length_pos_iff.mpr hne
  have hi : ticks.length - 1 < ticks.length := by omega
  have := mt ((lowerBound_isCut p ticks).iff (rangeAxis_strictMono ticks hs) (closed_lt p) ((rangeAxis_valid ticks _).2 hi)).2
    (rangeAxis_coord ticks _ hi ▸ h2)
  omega

theorem getIndex_ofCuts (p : α) (l : List α) (hs : Sorted l) (m : PositionMatch) :
    ∃ k', (rangeAxis l).IsCut (· ≤ p) k' ∧ getIndex p l m = (rangeAxis l).ofCuts (lowerBound p l) k' m := by
  have hm := rangeAxis_strictMono l hs
  have c := lowerBound_isCut p l
  have hv := rangeAxis_valid l
  have hnv : ¬ (rangeAxis l).valid l.length := fun h => Nat.lt_irrefl _ ((hv _).1 h)
  cases hl : l with
  | nil => exact ⟨0, ⟨.inl rfl, fun h => absurd ((rangeAxis_valid [] 0).1 h) (Nat.lt_irrefl 0)⟩, by cases m <;> rfl⟩
  | cons t0 rest =>
  rw [← hl]
  have hne : l ≠ [] := hl ▸ List.cons_ne_nil _ _
  have hn : 0 < l.length := List.length_pos_iff.mpr hne
  have hc := rangeAxis_coord l
  have ci := fun {j} (hj : j < l.length) => c.iff hm (closed_lt p) ((hv j).2 hj)
  rw [getIndex_eq p l hn m]
  by_cases h1 : p < l[0]
  · -- before the first tick: both cuts are 0
    rw [if_pos h1]
    rw [← hc 0 hn] at h1
    have h0 : lowerBound p l = 0 := by have := mt (ci hn).2 (Std.not_lt.2 (Std.le_of_lt h1)); omega
    rw [h0] at c ⊢
    exact ⟨0, c.le_same fun _ he => Std.lt_irrefl (he ▸ h1), by cases m <;> simp [Axis.ofCuts, PositionMatch.isGreater, hv, hn]⟩
  rw [if_neg h1]
  by_cases h2 : l[l.length - 1] < p
  · -- after the last tick: both cuts are the length
    rw [if_pos h2]
    rw [← hc _ (by omega)] at h2
    have h0 : lowerBound p l = l.length := by have := (ci (by omega)).1 h2; have := lowerBound_le_length p l; omega
    rw [h0] at c ⊢
    exact ⟨l.length, c.le_same fun h => absurd h hnv,
      by cases m <;> simp [Axis.ofCuts, PositionMatch.isLess, hnv, List.ne_nil_of_length_pos hn]⟩
  · -- between: tick `lo` is the first at or after `p`
    rw [if_neg h2]
    have hlo := range_deref_safe l hs hne p h1 h2
    have hvl := (hv _).2 hlo
    have hge : p ≤ (rangeAxis l).coord (lowerBound p l) := Std.not_lt.1 (c.2 hvl)
    dsimp only
    rw [List.getElem?_eq_getElem hlo, ← hc _ hlo]
    by_cases he : (rangeAxis l).coord (lowerBound p l) = p
    · have hb := (LawfulScalarEq.beq_iff _ _).2 he
      have hnl : ¬ p < (rangeAxis l).coord (lowerBound p l) := fun h => Std.lt_irrefl (he ▸ h)
      exact ⟨_, .le_succ hm hvl he,
        by cases m <;> simp [Axis.ofCuts, PositionMatch.isGreater, hv, hb, hge, hnl, hlo]⟩
    · have hb := (beq_false_iff _ _).2 he
      have hlt : p < (rangeAxis l).coord (lowerBound p l) := Std.lt_of_le_of_ne hge (Ne.symm he)
      exact ⟨_, c.le_same fun _ => he,
        by cases m <;> simp [Axis.ofCuts, PositionMatch.isGreater, hv, hb, hge, hlt, hlo]⟩

end Nix.C07
