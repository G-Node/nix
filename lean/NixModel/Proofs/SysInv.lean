import NixModel.Step
import NixModel.Proofs.Unlinks
/-
  The system invariant of a nix file in the store model: the root object (index 0) is a group that holds exactly the two links
  `metadata → 1`, `data → 2` and the creation time, 1 and 2 are groups, and no link other than the root's two reaches the objects
  0, 1, 2 — every entity object (everything a handle of the API can refer to) has an index ≥ 3.

  `Sys` holds for a new file and is preserved by every primitive whose target is not the root and whose link targets are entity
  objects; what a lookup hands back is a link target in a non-root group (Proofs/Lookup.lean), so an entity object again.
-/
namespace Nix.St
open Store

structure Sys (s : Store) : Prop where
  len : 3 ≤ s.objs.length
  root : ∃ ob, s.obj? 0 = some ob ∧ ob.isGroup = true ∧ ob.links = [("metadata", metadataGrp), ("data", dataGrp)] ∧
    (ob.attrs.lookup "created_at").isSome = true
  g1 : s.isGroupObj 1 = true
  g2 : s.isGroupObj 2 = true
  low : ∀ o, o ≠ 0 → ∀ l ∈ s.linksOf o, 3 ≤ l.2

theorem newFile_sys (id created format version : String) : Sys (newFile id created format version) := by
  refine ⟨Nat.le_refl 3, ⟨_, rfl, rfl, rfl, by simp [List.lookup]⟩, isGroupObj_newFile _ _ _ _ 1 (by decide),
    isGroupObj_newFile _ _ _ _ 2 (by decide), fun o ho l hl => ?_⟩
  rw [linksOf_newFile, if_neg ho] at hl; cases hl

theorem Sys.of_frame {s s' : Store} (h : Sys s) (h0 : s'.obj? 0 = s.obj? 0) (hlen : s.objs.length ≤ s'.objs.length)
    (hg : ∀ o, s.isGroupObj o = true → s'.isGroupObj o = true)
    (hlow : ∀ o, o ≠ 0 → ∀ l ∈ s'.linksOf o, 3 ≤ l.2) : Sys s' :=
  ⟨Nat.le_trans h.len hlen, by rw [h0]; exact h.root, hg 1 h.g1, hg 2 h.g2, hlow⟩

theorem Sys.setAttr {s : Store} (h : Sys s) (o : ObjId) (k v : String) (ho : o ≠ 0) : Sys (s.setAttr o k v) :=
  h.of_frame (obj?_modifyObj_ne s _ ho) (Nat.le_of_eq (length_setAttr ..).symm) (fun _ hg => by rwa [isGroupObj_setAttr])
    fun o' ho' l hl => h.low o' ho' l (by rwa [linksOf_setAttr] at hl)

theorem Sys.removeAttr {s : Store} (h : Sys s) (o : ObjId) (k : String) (ho : o ≠ 0) : Sys (s.removeAttr o k) :=
  h.of_frame (obj?_modifyObj_ne s _ ho) (Nat.le_of_eq (length_removeAttr ..).symm) (fun _ hg => by rwa [isGroupObj_removeAttr])
    fun o' ho' l hl => h.low o' ho' l (by rwa [linksOf_removeAttr] at hl)

theorem Sys.addLink {s : Store} (h : Sys s) (g : ObjId) (n : String) (t : ObjId) (hg : g ≠ 0) (ht : 3 ≤ t) : Sys (s.addLink g n t) :=
  h.of_frame (obj?_modifyObj_ne s _ hg) (Nat.le_of_eq (length_addLink ..).symm) (fun _ hg => by rwa [isGroupObj_addLink])
    fun o ho l hl => by
      rw [linksOf_addLink] at hl
      split at hl
      · rcases List.mem_append.mp hl with hl | hl
        · exact h.low o ho l hl
        · rw [List.mem_singleton.mp hl]; exact ht
      · exact h.low o ho l hl

theorem Sys.unlink {s : Store} (h : Sys s) (g : ObjId) (n : String) (hg : g ≠ 0) : Sys (s.unlink g n) :=
  h.of_frame (obj?_modifyObj_ne s _ hg) (Nat.le_of_eq (length_unlink ..).symm) (fun _ hg => by rwa [isGroupObj_unlink])
    fun o ho l hl => by
      rw [linksOf_unlink] at hl
      split at hl
      · exact h.low o ho l (List.mem_filter.mp hl).1
      · exact h.low o ho l hl

theorem Sys.removeGroup {s : Store} (h : Sys s) (g : ObjId) (n : String) (hg : g ≠ 0) : Sys (s.removeGroup g n) := by
  rcases removeGroup_cases s g n with e | e <;> rw [e]
  · exact h.unlink g n hg
  · exact h

theorem Sys.removeData {s : Store} (h : Sys s) (g : ObjId) (n : String) (hg : g ≠ 0) : Sys (s.removeData g n) := by
  rcases removeData_cases s g n with e | e <;> rw [e]
  · exact h.unlink g n hg
  · exact h

theorem Sys.alloc {s : Store} (h : Sys s) (ob : Obj) (hob : ob.links = []) : Sys (s.alloc ob).1 ∧ 3 ≤ (s.alloc ob).2 := by
  refine ⟨h.of_frame ?_ (by rw [length_alloc]; exact Nat.le_succ _) (fun o ho => ?_) (fun o ho l hl => ?_), h.len⟩
  · rw [obj?_alloc, if_neg (Nat.ne_of_lt (Nat.lt_of_lt_of_le (by decide) h.len))]
  · rwa [isGroupObj_alloc, if_neg (Nat.ne_of_lt (isGroupObj_lt ho))]
  · rw [linksOf_alloc] at hl
    split at hl
    · rw [hob] at hl; cases hl
    · exact h.low o ho l hl

theorem Sys.unlinks {s s' : Store} (h : Sys s) (hu : Unlinks (3 ≤ ·) s s') : Sys s' := by
  obtain ⟨D, hD, rfl⟩ := hu
  refine h.of_frame ?_ (Nat.le_of_eq (length_unlinkAll s D).symm) (fun o ho => by rw [isGroupObj_unlinkAll]; exact ho)
    (fun o ho l hl => h.low o ho l (Unlinks.links ⟨D, hD, rfl⟩ hl))
  -- the root is as it was: its two links lead to 1 and 2, which are not in `D`
  obtain ⟨ob, h0, _, hl, _⟩ := h.root
  have low (d : ObjId) (hd : d < 3) : d ∉ D := fun hm => Nat.not_le.mpr hd (hD d hm)
  cases ob
  simp only at hl
  simp [unlinkAll_obj?, h0, hl, metadataGrp, dataGrp, low 1 (by decide), low 2 (by decide)]

theorem Sys.reach {s : Store} (h : Sys s) {c g : ObjId} (hc : c ≠ 0) (hr : Reach s c g) : g ≠ 0 := by
  induction hr with
  | refl => exact hc
  | step n _ hl ih => exact Nat.ne_zero_of_lt (h.low _ ih _ hl)

theorem Sys.below {s : Store} (h : Sys s) {c d : ObjId} (hc : c ≠ 0) (hd : Below s c d) : 3 ≤ d :=
  let ⟨_, _, hr, hm⟩ := hd; h.low _ (h.reach hc hr) _ hm

theorem Sys.optGroup_low {s : Store} (h : Sys s) {g : ObjId} {n : String} {x : ObjId} (hg : g ≠ 0)
    (hx : s.optGroup g n = some x) : 3 ≤ x := h.low g hg _ (optGroup_mem hx)

theorem Sys.findData_low {s : Store} (h : Sys s) {g : ObjId} {a v : String} {x : ObjId} (hg : g ≠ 0)
    (hx : s.findDataByNameOrAttribute g a v = some x) : 3 ≤ x :=
  let ⟨_, hm⟩ := findData_mem hx; h.low g hg _ hm

theorem Sys.nested_step {s : Store} (h : Sys s) {cname : String} (r c : ObjId) (m : String) (x : ObjId) (hr : r ≠ 0)
    (hc : s.optGroup r cname = some c) (hm : (m, x) ∈ s.linksOf c) : 3 ≤ x :=
  h.low c (Nat.ne_zero_of_lt (h.optGroup_low hr hc)) _ hm

theorem Sys.blkFind_low {s : Store} (h : Sys s) {b : ObjId} {k n i : String} {x : ObjId} (hb : b ≠ 0)
    (hx : blkFind s b k n i = some x) : 3 ≤ x :=
  let ⟨p, m, hp, hm, _⟩ := blkFind_some hx; h.nested_step b p m x hb hp hm

theorem Sys.blkFindKey_low {s : Store} (h : Sys s) {b : ObjId} {k key : String} {x : ObjId} (hb : b ≠ 0)
    (hx : blkFindKey s b k key = some x) : 3 ≤ x :=
  let ⟨p, m, hp, hm, _⟩ := blkFindKey_some hx; h.nested_step b p m x hb hp hm

theorem Sys.grpFind_low {s : Store} (h : Sys s) {g : ObjId} {k n i : String} {x : ObjId} (hg : g ≠ 0)
    (hx : grpFind s g k n i = some x) : 3 ≤ x :=
  let ⟨p, m, hp, hm⟩ := grpFind_some hx; h.nested_step g p m x hg hp hm

theorem Sys.findSectionById_low {s : Store} (h : Sys s) {id : String} {x : ObjId} (hx : findSectionById s id = some x) : 3 ≤ x :=
  findSectionById_closed _ (fun r c m x hr => h.nested_step r c m x (Nat.ne_zero_of_lt hr)) (fun _ _ hm => h.low metadataGrp (by decide) _ hm) hx

theorem Sys.findSourceById_low {s : Store} (h : Sys s) {b : ObjId} {id : String} {x : ObjId} (hb : b ≠ 0)
    (hx : findSourceById s b id = some x) : 3 ≤ x :=
  findSourceById_closed _ (fun r c m x hr => h.nested_step r c m x (Nat.ne_zero_of_lt hr)) (fun c m x => h.nested_step b c m x hb) hx

theorem Sys.openGroupCreate {s : Store} (h : Sys s) (g : ObjId) (n : String) (hg : g ≠ 0) :
    Sys (s.openGroupCreate g n).1 ∧ 3 ≤ (s.openGroupCreate g n).2 := by
  rcases openGroupCreate_cases s g n with ⟨x, hx, e⟩ | ⟨_, e⟩ <;> rw [e]
  · exact ⟨h, h.optGroup_low hg hx⟩
  · have ha := h.alloc { isGroup := true } rfl
    exact ⟨ha.1.addLink g n _ hg ha.2, ha.2⟩

theorem Sys.removeAllLinks {s : Store} (h : Sys s) (g : ObjId) (n : String) (hg : g ≠ 0) : Sys (s.removeAllLinks g n).1 :=
  h.unlinks ((removeAllLinks_unlinks s g n).imp fun _ ⟨_, hm⟩ => h.low g hg _ hm)

end Nix.St
