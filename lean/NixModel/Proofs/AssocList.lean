/-
  `List.lookup` on lists keyed by strings, as the attribute lists of the store and the property list of a section use it:
  what replacing the entry of one key and filtering by the key do to it.
-/
namespace Nix
variable {β : Type}

theorem lookup_none_iff {l : List (String × β)} {n : String} : l.lookup n = none ↔ ∀ a ∈ l, a.1 ≠ n := by
  rw [List.lookup_eq_none_iff]
  exact forall₂_congr fun a _ => by rw [bne_iff_ne, ne_comm]

/-- core's `List.lookup_cons` with the test as a proposition, so that `by_cases` and `simp` decide it -/
theorem lookup_cons_ite (a : String) (b : β) (l : List (String × β)) (k : String) :
    ((a, b) :: l).lookup k = if k = a then some b else l.lookup k := by
  rw [List.lookup_cons]; split <;> simp_all

theorem lookup_append_new {l : List (String × β)} {k : String} (v : β) (h : l.lookup k = none) (k' : String) :
    (l ++ [(k, v)]).lookup k' = if k' = k then some v else l.lookup k' := by
  rw [List.lookup_append, lookup_cons_ite]
  by_cases hk : k' = k
  · subst hk; simp [h]
  · simp [hk]

theorem any_key_eq (l : List (String × β)) (k : String) : l.any (·.1 == k) = (l.lookup k).isSome := by
  rw [Bool.eq_iff_iff, List.any_eq_true, List.lookup_isSome_iff]
  exact exists_congr fun p => and_congr_right' (by rw [BEq.comm])

/-- every entry under `k` gets the value `v`; `f` says under which spelling of that key it is written back -/
theorem lookup_map_replace (f : String → String) {k : String} (hf : f k = k) (l : List (String × β)) (v : β) (k' : String) :
    (l.map fun p => if p.1 == k then (f p.1, v) else p).lookup k' = if k' = k then (l.lookup k).map fun _ => v else l.lookup k' := by
  induction l with
  | nil => simp
  | cons a l ih =>
    obtain ⟨a, b⟩ := a
    rw [List.map_cons]
    by_cases ha : a = k
    · subst ha
      simp only [BEq.rfl, if_true, hf, lookup_cons_ite, ih]
      split <;> simp [*]
    · simp only [beq_eq_false_iff_ne.mpr ha, Bool.false_eq_true, if_false, lookup_cons_ite, ih]
      by_cases hk : k' = k
      · simp [hk, Ne.symm ha]
      · simp [hk]

theorem lookup_filter_key (q : String → Bool) (l : List (String × β)) (k : String) :
    (l.filter fun p => q p.1).lookup k = if q k then l.lookup k else none := by
  induction l with
  | nil => simp
  | cons a l ih =>
    obtain ⟨a, b⟩ := a
    by_cases ha : k = a
    · subst ha; by_cases hq : q k <;> simp [hq, ih]
    · by_cases hq : q a <;> simp [lookup_cons_ite, ha, hq, ih]

theorem lookup_filter_ne (k k' : String) (l : List (String × β)) :
    (l.filter fun p => p.1 != k).lookup k' = if k' = k then none else l.lookup k' := by
  rw [lookup_filter_key (· != k)]; simp

end Nix
