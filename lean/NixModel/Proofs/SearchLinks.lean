import NixModel.Proofs.SearchBfs
/-
  Helper lemmas for C20: parent uniqueness from id distinctness, the nearest accepted generation (`firstHit`),
  `Section::tree_depth()`, the property copy loop.
-/
namespace Nix.C20
open Nix.Search Nix.Search.Tree

variable {α : Type}

theorem nodes_perm_roots_children : ∀ ts : List (Tree α), (nodesL ts).Perm (ts ++ (nodesL ts).flatMap children) :=
  forest_induct (by simp [nodesL]) fun t ts h1 h2 => by
    rw [nodesL_cons, List.flatMap_cons, List.flatMap_append, List.cons_append]
    exact (((h1.append h2).trans (List.perm_append_comm_assoc ..)).trans (by simp)).cons t

theorem nodup_roots_children {δ : Type} (k : Tree α → δ) (ts : List (Tree α)) (hnd : ((nodesL ts).map k).Nodup) :
    (ts.map k ++ ((nodesL ts).flatMap children).map k).Nodup := by
  rw [← List.map_append]
  exact ((nodes_perm_roots_children ts).map k).nodup_iff.1 hnd

theorem nodup_flatMap_inj {β γ : Type} {g : β → List γ} {l : List β} (hnd : (l.flatMap g).Nodup) {p q : β} (hp : p ∈ l) (hq : q ∈ l)
    {c : γ} (hc : c ∈ g p) (hc' : c ∈ g q) : p = q :=
  have apart := (List.pairwise_flatMap.1 hnd).2
  List.Pairwise.forall_of_forall_of_flip (R := fun p q => ∀ c ∈ g p, c ∈ g q → p = q) (fun _ _ _ _ _ => rfl)
    (apart.imp fun h c hc hc' => absurd rfl (h c hc c hc')) (apart.imp fun h c hc hc' => absurd rfl (h c hc' c hc)) hp hq c hc hc'

theorem parent_unique {δ : Type} (k : Tree α → δ) (ts : List (Tree α)) (hnd : ((nodesL ts).map k).Nodup)
    {p q c c' : Tree α} (hp : p ∈ nodesL ts) (hq : q ∈ nodesL ts) (hc : c ∈ p.children) (hc' : c' ∈ q.children)
    (hk : k c = k c') : p = q :=
  nodup_flatMap_inj (g := fun x => x.children.map k) (List.map_flatMap ▸ (List.nodup_append.1 (nodup_roots_children k ts hnd)).2.1)
    hp hq (List.mem_map_of_mem hc) (hk ▸ List.mem_map_of_mem hc')

theorem root_not_child {δ : Type} (k : Tree α → δ) (ts : List (Tree α)) (hnd : ((nodesL ts).map k).Nodup)
    {r p c : Tree α} (hr : r ∈ ts) (hp : p ∈ nodesL ts) (hc : c ∈ p.children) : k c ≠ k r := fun e =>
  (List.nodup_append.1 (nodup_roots_children k ts hnd)).2.2 _ (List.mem_map_of_mem hr) _
    (List.mem_map_of_mem (List.mem_flatMap.2 ⟨p, hp, hc⟩)) e.symm

theorem firstHit_cases (f : Tree α → Bool) : ∀ (k : Nat) (ts : List (Tree α)),
    firstHit f k ts = [] ∧ (levels k ts).filter f = [] ∨
    ∃ j, firstHit f k ts = (level j ts).filter f ∧ (levels j ts).filter f = [] ∧ (level j ts).filter f ≠ [] := by
  intro k
  induction k with
  | zero => intro ts; exact .inl ⟨rfl, rfl⟩
  | succ k ih =>
    intro ts
    simp only [firstHit]
    split
    next he =>
      have he := List.isEmpty_iff.1 he
      rcases ih (ts.flatMap children) with ⟨h1, h2⟩ | ⟨j, h1, h2, h3⟩
      · exact .inl ⟨h1, by rw [levels, List.filter_append, he, h2]; rfl⟩
      · exact .inr ⟨j + 1, h1, by rw [levels, List.filter_append, he, h2]; rfl, h3⟩
    next he => exact .inr ⟨0, rfl, rfl, fun h => he (List.isEmpty_iff.2 h)⟩

/-- `Section::tree_depth()` is the height of what hangs under the section -/
theorem treeDepthL_eq_heightL : ∀ ts : List (Tree α), treeDepthL ts = heightL ts :=
  forest_induct rfl fun t ts h1 h2 => by
    cases t
    simp only [children] at h1
    simp only [treeDepthL, treeDepth, heightL, height, h1, h2]
    omega

theorem treeDepth_eq (t : Tree α) : treeDepth t = heightL t.children := by
  cases t; exact treeDepthL_eq_heightL _

theorem copyUnshadowed_eq (linked : List PropInfo) : ∀ (own : List PropInfo),
    (linked.map (·.name)).Nodup →
    copyUnshadowed own linked = own ++ linked.filter (fun p => !own.any (fun o => p.name == o.name)) := by
  induction linked with
  | nil => intro own _; simp [copyUnshadowed]
  | cons p ps ih =>
    intro own hnd
    obtain ⟨hp, hps⟩ := List.nodup_cons.1 hnd
    unfold copyUnshadowed at ih ⊢
    rw [List.foldl_cons]
    by_cases hs : own.any (fun o => p.name == o.name)
    · rw [if_pos hs, ih own hps, List.filter_cons]; simp [hs]
    · -- a later property has another name than `p`: whether `p` has joined the own ones makes no difference to it
      have hc : ∀ q ∈ ps, (!(own ++ [p]).any (fun o => q.name == o.name)) = !own.any (fun o => q.name == o.name) := fun q hq => by
        have : q.name ≠ p.name := fun e => hp (List.mem_map.2 ⟨q, hq, e⟩)
        simp [this]
      rw [if_neg hs, ih (own ++ [p]) hps, List.filter_congr hc, List.filter_cons]; simp [hs]

end Nix.C20
