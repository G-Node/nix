import NixModel.Proofs.IndexSound
/-
  The sampled kernel: whatever the rounded quotient `est` is, the corrected index is the one before the cut at `· ≤ p`.
  Only the order laws are used; `+ - * /` are opaque.
-/
open Std
namespace Nix.C07
open Nix Scalar

section
variable {α : Type} [Scalar α]

def StrictMonoN (x : Nat → α) : Prop := ∀ i j, i < j → x i < x j

theorem corrDown_post (x : Nat → α) (p : α) (est : Nat) (h0 : ¬ p < x 0) : ¬ p < x (corrDown x p est) := by
  induction est with
  | zero => simpa [corrDown] using h0
  | succ g ih =>
    simp only [corrDown]; split
    · exact ih
    · assumption

theorem sampledAxis_valid (si off : α) (i : Nat) : (sampledAxis si off).valid i := trivial

theorem sampledAxis_strictMono (si off : α) (hx : StrictMonoN (posAt si off)) : (sampledAxis si off).StrictMono :=
  fun i j _ hij => hx i j hij

end

variable {α : Type} [Scalar α] [IsLinearOrder α] [LawfulOrderLT α] [LawfulScalarEq α]

omit [LawfulScalarEq α] in
theorem corrUp_spec (x : Nat → α) (hx : StrictMonoN x) (p : α) (fuel g N : Nat) (hg : ¬ p < x g) (hN : p < x N) (hf : N ≤ g + fuel) :
    ∃ r, corrUp x p fuel g = some r ∧ ¬ p < x r ∧ p < x (r + 1) := by
  induction fuel generalizing g with
  | zero =>
    rcases Nat.lt_or_eq_of_le hf with h | h
    · exact absurd (Std.lt_trans hN (hx N g h)) hg
    · subst h; exact absurd hN hg
  | succ f ih =>
    simp only [corrUp]
    split
    · rename_i hc
      exact ih (g + 1) (Std.not_lt.2 hc.1) (by omega)
    · rename_i hc
      exact ⟨g, rfl, hg, Std.not_le.1 fun hle => hc ⟨hle, hx g (g + 1) (Nat.lt_succ_self g)⟩⟩

theorem getSampledIndex_ofCuts (fuel : Nat) (p off si : α) (m : PositionMatch)
    (hx : StrictMonoN (posAt si off)) (hx0 : posAt si off 0 = off)
    (hsi : zero < si) (hfp : isFinite p = true) (hfo : isFinite off = true)
    (hfuel : p < posAt si off fuel) (hq : floor (div (sub p off) si) < ofNat 9007199254740992) :
    ∃ k k', (sampledAxis si off).IsCut (· < p) k ∧ (sampledAxis si off).IsCut (· ≤ p) k' ∧
      getSampledIndex fuel p off si m = (sampledAxis si off).ofCuts k k' m := by
  have hm := sampledAxis_strictMono si off hx
  have hv : ∀ i, (sampledAxis si off).valid i = True := fun _ => rfl
  unfold getSampledIndex
  by_cases h1 : p < off
  · rw [if_pos h1]
    rw [← hx0] at h1
    exact ⟨0, 0, ⟨.inl rfl, fun _ => Std.not_lt.2 (Std.le_of_lt h1)⟩, ⟨.inl rfl, fun _ => Std.not_le.2 h1⟩,
      by cases m <;> simp [Axis.ofCuts, PositionMatch.isGreater, hv]⟩
  · simp only [h1, if_false, hsi, hfp, hfo, hq, decide_true, Bool.not_true, Bool.or_self, Bool.false_eq_true]
    generalize (if floor (div (sub p off) si) < zero then 0 else toNat (floor (div (sub p off) si))) = est
    have hd := corrDown_post (posAt si off) p est (hx0.symm ▸ h1)
    obtain ⟨idx, hidx, hle, hgt⟩ := corrUp_spec (posAt si off) hx p fuel _ fuel hd hfuel (by omega)
    rw [hidx]
    have c' : (sampledAxis si off).IsCut (· ≤ p) (idx + 1) := ⟨.inr ⟨trivial, Std.not_lt.1 hle⟩, fun _ => Std.not_le.2 hgt⟩
    by_cases he : posAt si off idx = p
    · have hb := (LawfulScalarEq.beq_iff _ _).2 he
      exact ⟨idx, idx + 1, .lt_at hm trivial he, c', by cases m <;> simp [Axis.ofCuts, hv, hb]⟩
    · have hb := (beq_false_iff _ _).2 he
      exact ⟨idx + 1, idx + 1, c'.lt_same fun _ => he, c', by cases m <;> simp [Axis.ofCuts, hv, hb]⟩

end Nix.C07
