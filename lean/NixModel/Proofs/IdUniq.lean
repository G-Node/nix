import NixModel.Proofs.OpWrites
/-
  Ids stay pairwise distinct: the global id invariant of the store model.

  `IdUniq s`: two objects of the file that carry the same `entity_id` are one object.  Every entry point either writes no
  `entity_id` at all (`NoNewIds`) or writes the id it was handed onto ONE object (`IdStep`): both are readings of its attribute
  footprint (`apply_writes`).  Hence: handed an id that is new to the file, every entry point keeps `IdUniq` (`apply_idUniq`),
  and so does every history (`run_idUniq`).  Objects are never removed from the store, so "new to the file" includes the ids
  of deleted entities: an id is never reused.  The `IdStep.…` lemmas per primitive are for walking a further entry point by hand;
  `apply_idStep` does not need them.
-/
namespace Nix.St
open Store

def IdUniq (s : Store) : Prop :=
  ∀ o1 o2 x, s.attr? o1 "entity_id" = some x → s.attr? o2 "entity_id" = some x → o1 = o2

def IdStep (s s' : Store) (g : ObjId) (i : String) : Prop :=
  ∀ o x, s'.attr? o "entity_id" = some x → s.attr? o "entity_id" = some x ∨ (o = g ∧ x = i)

def NoNewIds (s s' : Store) : Prop := ∀ o x, s'.attr? o "entity_id" = some x → s.attr? o "entity_id" = some x

variable {W : ObjId → String → Option String → Prop}

theorem Writes.idStep {s s' : Store} {g : ObjId} {i : String} (h : Writes W s s')
    (hW : ∀ o x, W o "entity_id" (some x) → o = g ∧ x = i) : IdStep s s' g i :=
  fun o x hx => (h.2 o _).elim (fun e => .inl (e ▸ hx)) fun hw => .inr (hW o x (hx ▸ hw))

theorem Writes.noNewIds {s s' : Store} (h : Writes W s s') (hW : ∀ o x, ¬ W o "entity_id" (some x)) : NoNewIds s s' :=
  fun o x hx => (h.2 o _).elim (fun e => e ▸ hx) fun hw => absurd (hx ▸ hw) (hW o x)

theorem IdStep.then {s0 s s' : Store} {g : ObjId} {i : String} (h : IdStep s0 s g i) (h' : NoNewIds s s') : IdStep s0 s' g i :=
  fun o x hx => h o x (h' o x hx)

theorem Writes.noNewIds_of_none {s s' : Store} (h : Writes noWrite s s') : NoNewIds s s' := h.noNewIds fun _ _ => id

theorem IdStep.openGroupCreate {s0 s : Store} {g : ObjId} {i : String} (p : ObjId) (n : String)
    (h : IdStep s0 s g i) : IdStep s0 (s.openGroupCreate p n).1 g i :=
  h.then (Writes.openGroupCreate s p n).noNewIds_of_none

theorem IdStep.addLink {s0 s : Store} {g : ObjId} {i : String} (p : ObjId) (n : String) (t : ObjId)
    (h : IdStep s0 s g i) : IdStep s0 (s.addLink p n t) g i :=
  h.then (Writes.addLink s p n t).noNewIds_of_none

theorem IdStep.unlink {s0 s : Store} {g : ObjId} {i : String} (p : ObjId) (n : String)
    (h : IdStep s0 s g i) : IdStep s0 (s.unlink p n) g i :=
  h.then (Writes.unlink s p n).noNewIds_of_none

theorem IdStep.removeGroup {s0 s : Store} {g : ObjId} {i : String} (p : ObjId) (n : String)
    (h : IdStep s0 s g i) : IdStep s0 (s.removeGroup p n) g i :=
  h.then (Writes.removeGroup s p n).noNewIds_of_none

theorem IdStep.removeData {s0 s : Store} {g : ObjId} {i : String} (p : ObjId) (n : String)
    (h : IdStep s0 s g i) : IdStep s0 (s.removeData p n) g i :=
  h.then (Writes.removeData s p n).noNewIds_of_none

theorem IdStep.unlinkAll {s0 s : Store} {g : ObjId} {i : String} (D : List ObjId)
    (h : IdStep s0 s g i) : IdStep s0 (s.unlinkAll D) g i :=
  h.then (Writes.unlinkAll s D).noNewIds_of_none

theorem IdStep.removeAttr {s0 s : Store} {g : ObjId} {i : String} (o' : ObjId) (k' : String)
    (h : IdStep s0 s g i) : IdStep s0 (s.removeAttr o' k') g i :=
  h.then ((Writes.removeAttr s (W := fun _ _ v => v = none) rfl).noNewIds fun _ _ e => by cases e)

theorem apply_idStep (s : Store) (op : Op) (hsafe : op.idSafe s) :
    match op.newId with
    | some i => ∃ g, IdStep s (op.apply s).1 g i
    | none => NoNewIds s (op.apply s).1 := by
  obtain ⟨g, h⟩ := apply_writes s op hsafe
  unfold Op.mayWrite at h
  split <;> rename_i hn <;> simp only [hn] at h
  · exact ⟨g, h.idStep fun o x hw => ⟨hw.1, (Option.some.inj (hw.2.2 rfl))⟩⟩
  · exact h.noNewIds fun _ _ hw => hw rfl

/-- the id handed to a creating entry point has never been written into this file (deleted objects keep theirs: the store never
    forgets an object) — what a generator that does not repeat itself provides (C12's other half) -/
def Op.freshId (s : Store) (op : Op) : Prop :=
  match op.newId with
  | some i => ∀ o, s.attr? o "entity_id" ≠ some i
  | none => True

/-- C12 / C03: EVERY entry point keeps the ids in the file pairwise distinct, given an id that is new to the file -/
theorem apply_idUniq (s : Store) (op : Op) (hU : IdUniq s) (hsafe : op.idSafe s) (hfresh : op.freshId s) : IdUniq (op.apply s).1 := by
  have hstep := apply_idStep s op hsafe
  unfold Op.freshId at hfresh
  cases hn : op.newId with
  | none =>
    simp only [hn] at hstep
    intro o1 o2 x h1 h2
    exact hU o1 o2 x (hstep o1 x h1) (hstep o2 x h2)
  | some i =>
    simp only [hn] at hstep hfresh
    obtain ⟨g, hg⟩ := hstep
    intro o1 o2 x h1 h2
    rcases hg o1 x h1 with a1 | ⟨e1, x1⟩ <;> rcases hg o2 x h2 with a2 | ⟨e2, x2⟩
    · exact hU o1 o2 x a1 a2
    · subst x2; exact absurd a1 (hfresh o1)
    · subst x1; exact absurd a2 (hfresh o2)
    · rw [e1, e2]

theorem newFile_idUniq (id created format version : String) : IdUniq (newFile id created format version) := by
  intro o1 o2 x h1 _
  exfalso
  simp only [newFile, attr?, obj?] at h1
  match o1 with
  | 0 => simp [List.lookup] at h1
  | 1 => simp [List.lookup] at h1
  | 2 => simp [List.lookup] at h1
  | (n + 3) => simp at h1

def FreshRun (s : Store) : List Op → Prop
  | [] => True
  | op :: ops => op.idSafe s ∧ op.freshId s ∧ FreshRun (op.apply s).1 ops

theorem run_idUniq (s : Store) (ops : List Op) (hU : IdUniq s) (hf : FreshRun s ops) : IdUniq (run s ops) := by
  induction ops generalizing s with
  | nil => exact hU
  | cons op ops ih =>
    simp only [run, List.foldl_cons]
    exact ih _ (apply_idUniq s op hU hf.1 hf.2.1) hf.2.2

end Nix.St
