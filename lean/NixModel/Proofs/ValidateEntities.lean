import NixModel.Proofs.ValidateLemmas
/-
  Lemmas for C19 that join model and specification.  Per entity: the overload reports no error exactly when the entity has
  no breach (`ent_errors`; for arrays through the two read-off forms `array_errors` and `arrayBreaches_nil`), no warning
  exactly when it has no soft breach (`ent_warnings`), and attributes every message to the entity (`ent_ids`).  Where the
  entities of a file sit (`mem_entities`).  `report_*`: what follows for a report put together entity by entity.
-/
namespace Nix.C19
open Nix Nix.Validate

variable {α : Type}

theorem when_eq_nil {β : Type} (c : Bool) (b : β) : when c b = [] ↔ c = false := by cases c <;> simp [when]
theorem mem_when {β : Type} (c : Bool) (b x : β) : x ∈ when c b ↔ c = true ∧ x = b := by cases c <;> simp [when]
theorem notEmptyS_def : notEmptyS = fun s => !s.isEmpty := rfl

theorem isSet_eq_false {g : Got Bool} (h : g ≠ .val true) : isSet g = false := by
  cases g with
  | threw => rfl
  | val v => cases v <;> simp_all [isSet, Got.passes]

theorem passes_beq_iff {β : Type} [BEq β] [LawfulBEq β] (g : Got β) (b : β) : g.passes (· == b) = true ↔ g = .val b := by
  cases g <;> simp [Got.passes]

theorem unitBreach_false_iff (u : Got (Option String)) (pred : String → Bool) :
    unitBreach u pred = false ↔ (u.passes Option.isSome = true → u.passes (optUnit pred) = true) := by
  cases u with
  | threw => simp [unitBreach, Got.passes]
  | val o => cases o <;> simp [unitBreach, Got.passes, optUnit]

theorem entity_errors (id : String) (created : Got Int) :
    (validateEntity id created).errors = [] ↔ entityBreaches id created = [] := by
  simp [errors_nil_iff, validateEntity, entityBreaches, when_eq_nil, notEmptyS]

/-- Every table ends with `result.concat(result_base)`, and every breach list begins with the breaches of the base rules; the
    rules of a table and the breach kinds after the base part come in the same order.  Hence `b`, the base part, first on the right. -/
theorem concat_errors_nil (a b : Result) : (a.concat b).errors = [] ↔ b.errors = [] ∧ a.errors = [] := by
  rw [concat_errors, List.append_eq_nil_iff, and_comm]

theorem named_errors (n : Named) : (validateNamed n).errors = [] ↔ namedBreaches n = [] := by
  rw [validateNamed, concat_errors_nil, entity_errors]
  simp [errors_nil_iff, namedBreaches, when_eq_nil, notEmptyS_def]

theorem dimSizeBreach_eq (shape : List Nat) (d : DimDesc α) :
    dimSizeBreach shape d = when (mism probeTicks shape d) .ticks ++ when (mism probeLabels shape d) .labels ++
      when (mism probeRows shape d) .rows := by
  unfold dimSizeBreach mism probeTicks probeLabels probeRows
  cases hl : dataLen shape d with
  | none => cases d.kind <;> rfl
  | some n => cases d.kind <;> simp [when, bne, Nat.pos_iff_ne_zero]

theorem array_errors (a : ArrayDesc α) : (validateArray a).errors = [] ↔
    namedBreaches a.ent = [] ∧ isSet a.dtypeSet = true ∧ a.dimCount = .val a.shape.length ∧
    ∀ probe ∈ [probeTicks, probeLabels, probeRows], dimsLoop probe a.shape a.dims = true := by
  rw [validateArray, concat_errors_nil, named_errors]
  simp [errors_nil_iff, BEq.comm (a := a.shape.length), passes_beq_iff, isSet, dimTicksMatchData, dimLabelsMatchData,
    dimDataFrameTicksMatchData]
  -- the guard `!dims.isEmpty` is immaterial: the loops accept `[]`
  cases a.dims <;> simp [dimsLoop.eq_1]

theorem arrayBreaches_nil (a : ArrayDesc α) : arrayBreaches a = [] ↔
    namedBreaches a.ent = [] ∧ isSet a.dtypeSet = true ∧ a.dimCount = .val a.shape.length ∧
    ∀ probe ∈ [probeTicks, probeLabels, probeRows], ∀ d ∈ a.dims, mism probe a.shape d = false := by
  simp [arrayBreaches, when_eq_nil, dimSizeBreach_eq, passes_beq_iff, forall_and]

theorem array_sound (a : ArrayDesc α) (h : arrayBreaches a = []) : (validateArray a).errors = [] :=
  have ⟨hn, hdt, hrk, hsz⟩ := (arrayBreaches_nil a).1 h
  (array_errors a).2 ⟨hn, hdt, hrk, fun probe hp => dimsLoop_true probe _ _ (hsz probe hp)⟩

theorem array_complete (a : ArrayDesc α) (hwf : arrayWF a = true) (h : (validateArray a).errors = []) :
    arrayBreaches a = [] := by
  obtain ⟨hn, hdt, hrk, hl⟩ := (array_errors a).1 h
  -- dimensionCount() = rank, hence (`arrayWF`) as many descriptors as data dimensions, each index within range: no loop `break`s
  simp only [arrayWF, hrk, Bool.and_eq_true, List.all_eq_true, decide_eq_true_eq, beq_iff_eq] at hwf
  have hin : ∀ d ∈ a.dims, 1 ≤ d.index ∧ d.index ≤ a.shape.length := fun d hd => by have := hwf.2 d hd; omega
  exact (arrayBreaches_nil a).2 ⟨hn, hdt, hrk, fun probe hp => by simpa [dimsLoop_inRange probe _ _ hin] using hl probe hp⟩

theorem mem_entities {d : FileDesc α} {e : Ent α} : e ∈ entities d ↔
    (∃ b ∈ d.blocks, e = .named b.ent ∨ (∃ a ∈ b.arrays, e = .array a ∨ ∃ x ∈ a.dims, e = .dim x) ∨
      (∃ t ∈ b.mtags, e = .tag t ∨ ∃ f ∈ t.features, e = .feature f) ∨
      (∃ t ∈ b.tags, e = .tag t ∨ ∃ f ∈ t.features, e = .feature f) ∨ ∃ s ∈ b.sources, e = .named s) ∨
    ∃ s ∈ d.sections, e = .named s.ent ∨ ∃ p ∈ s.props, e = .prop p := by
  simp [entities, blockEnts, arrayEnts, tagEnts, sectionEnts, eq_comm]

theorem mem_entities_array {d : FileDesc α} {b : BlockDesc α} {a : ArrayDesc α} (hb : b ∈ d.blocks) (ha : a ∈ b.arrays) :
    Ent.array a ∈ entities d :=
  mem_entities.2 (.inl ⟨b, hb, .inr (.inl ⟨a, ha, .inl rfl⟩)⟩)
theorem mem_entities_dim {d : FileDesc α} {b : BlockDesc α} {a : ArrayDesc α} {x : DimDesc α} (hb : b ∈ d.blocks) (ha : a ∈ b.arrays)
    (hx : x ∈ a.dims) : Ent.dim x ∈ entities d :=
  mem_entities.2 (.inl ⟨b, hb, .inr (.inl ⟨a, ha, .inr ⟨x, hx, rfl⟩⟩)⟩)
theorem mem_entities_tag {d : FileDesc α} {b : BlockDesc α} {t : TagDesc} (hb : b ∈ d.blocks) (ht : t ∈ b.tags ∨ t ∈ b.mtags)
    {e : Ent α} (he : e = .tag t ∨ ∃ f ∈ t.features, e = .feature f) : e ∈ entities d :=
  mem_entities.2 (.inl ⟨b, hb, .inr (.inr (ht.elim (fun h => .inr (.inl ⟨t, h, he⟩)) fun h => .inl ⟨t, h, he⟩))⟩)

def entWF : Ent α → Bool
  | .array a => arrayWF a
  | _ => true

theorem entWF_of_mem {d : FileDesc α} (hwf : WF d = true) {e : Ent α} (he : e ∈ entities d) : entWF e = true := by
  cases e with
  | array a =>
    obtain ⟨b, hb, ha⟩ : ∃ b ∈ d.blocks, a ∈ b.arrays := by simpa [mem_entities] using he
    simp only [WF, List.all_eq_true] at hwf
    exact hwf b hb a ha
  | _ => rfl

section
/-! `[Scalar α]` is in the statements of this section although none of them uses it: hence the linter option. -/
set_option linter.unusedSectionVars false
variable [Scalar α]

theorem mism_ticks_iff (shape : List Nat) (d : DimDesc α) :
    mism probeTicks shape d = true ↔ Breach.ticks ∈ dimSizeBreach shape d := by simp [dimSizeBreach_eq, mem_when]
theorem mism_labels_iff (shape : List Nat) (d : DimDesc α) :
    mism probeLabels shape d = true ↔ Breach.labels ∈ dimSizeBreach shape d := by simp [dimSizeBreach_eq, mem_when]
theorem mism_rows_iff (shape : List Nat) (d : DimDesc α) :
    mism probeRows shape d = true ↔ Breach.rows ∈ dimSizeBreach shape d := by simp [dimSizeBreach_eq, mem_when]

theorem mem_entities_block {d : FileDesc α} {b : BlockDesc α} (hb : b ∈ d.blocks) : Ent.named b.ent ∈ entities d :=
  mem_entities.2 (.inl ⟨b, hb, .inl rfl⟩)
theorem mem_entities_source {d : FileDesc α} {b : BlockDesc α} {s : Named} (hb : b ∈ d.blocks) (hs : s ∈ b.sources) :
    Ent.named s ∈ entities d :=
  mem_entities.2 (.inl ⟨b, hb, .inr (.inr (.inr (.inr ⟨s, hs, rfl⟩)))⟩)
theorem mem_entities_section {d : FileDesc α} {s : SectionDesc} (hs : s ∈ d.sections) : Ent.named s.ent ∈ entities d :=
  mem_entities.2 (.inr ⟨s, hs, .inl rfl⟩)
theorem mem_entities_prop {d : FileDesc α} {s : SectionDesc} {p : PropDesc} (hs : s ∈ d.sections) (hp : p ∈ s.props) :
    Ent.prop p ∈ entities d :=
  mem_entities.2 (.inr ⟨s, hs, .inr ⟨p, hp, rfl⟩⟩)
end

variable [Scalar α]

theorem ent_errors (e : Ent α) (hwf : entWF e = true) : (entValidate e).errors = [] ↔ e.breaches = [] := by
  cases e with
  | named n => exact named_errors n
  | array a => exact ⟨array_complete a hwf, array_sound a⟩
  | dim d =>
    simp only [entValidate, Ent.breaches, validateDim, dimBreaches]
    cases d.kind <;>
      simp [errors_nil_iff, validateRange, validateSampled, validateSet, when_eq_nil, isSorted_eq_not_unsorted,
        unitBreach_false_iff, Nat.one_le_iff_ne_zero]
  | tag t =>
    rw [entValidate, validateTag, concat_errors_nil, named_errors]
    -- without units the guard skips both unit rules, and neither is breached
    cases hr : t.refs <;> cases hu : t.units <;>
      simp [Ent.breaches, errors_nil_iff, tagBreaches, when_eq_nil, Got.passes, isSet, tagUnitsMatchRefsUnits_eq, hr, hu]
  | feature f =>
    rw [entValidate, validateFeature, concat_errors_nil, entity_errors]
    simp [Ent.breaches, errors_nil_iff, featureBreaches, when_eq_nil, isSet]
  | prop p =>
    rw [entValidate, validateProp, concat_errors_nil, entity_errors]
    simp [Ent.breaches, errors_nil_iff, propBreaches, when_eq_nil, notEmptyS, unitBreach_false_iff]

theorem ent_sound (e : Ent α) (h : e.breaches = []) : (entValidate e).errors = [] := by
  cases e with
  | array a => exact array_sound a h
  | _ => exact (ent_errors _ rfl).2 h

theorem ent_warnings (e : Ent α) : (entValidate e).warnings = [] ↔ e.soft = [] := by
  cases e with
  | dim d =>
    simp only [entValidate, Ent.soft, validateDim, dimSoft]
    cases d.kind <;> simp [warnings_nil_iff, validateRange, validateSampled, validateSet, when_eq_nil, isSet]
  | array a =>
    simp [entValidate, Ent.soft, warnings_nil_iff, validateArray, validateNamed, validateEntity, arraySoft, when_eq_nil, isSet,
      unitBreach_false_iff]
  | prop p =>
    simp [entValidate, Ent.soft, warnings_nil_iff, validateProp, validateEntity, propSoft, when_eq_nil]
  | _ => simp [entValidate, Ent.soft, warnings_nil_iff, validateNamed, validateEntity, validateTag, validateFeature]

theorem ent_ids (e : Ent α) : Sat (·.id = e.msgId) (·.id = e.msgId) (entValidate e) := by
  cases e with
  | dim d =>
    simp only [entValidate, validateDim]
    cases d.kind <;> simp [Ent.msgId, validateRange, validateSampled, validateSet]
  | _ => simp [entValidate, Ent.msgId, validateNamed, validateEntity, validateArray, validateTag, validateFeature, validateProp]

/-! `l.flatMap g` where the part `g e` carries the key of `e` and is empty exactly when `B e` is: the four rules of `Rel`
    (errors against breaches, warnings against soft breaches) are instances. -/
section report
variable {ι β : Type} {l : List ι} {g : ι → List Msg} {key : ι → String} {B : ι → List β}
  (hid : ∀ e ∈ l, ∀ m ∈ g e, m.id = key e)
include hid

theorem report_sound (hs : ∀ e ∈ l, B e = [] → g e = []) :
    ∀ m ∈ l.flatMap g, ∃ e ∈ l, key e = m.id ∧ B e ≠ [] := by
  intro m hm
  obtain ⟨e, he, hme⟩ := List.mem_flatMap.1 hm
  exact ⟨e, he, (hid e he m hme).symm, fun hb => by rw [hs e he hb] at hme; cases hme⟩

theorem report_count (hc : ∀ e ∈ l, g e = [] → B e = []) (s : String) :
    l.countP (fun e => key e == s && !(B e).isEmpty) ≤ countId s (l.flatMap g) := by
  unfold countId
  induction l with
  | nil => simp
  | cons x xs ih =>
    have ih' := ih (fun e he => hid e (by simp [he])) (fun e he => hc e (by simp [he]))
    simp only [List.flatMap_cons, List.countP_append, List.countP_cons]
    split
    next hq =>
      simp only [Bool.and_eq_true, beq_iff_eq, Bool.not_eq_true', List.isEmpty_eq_false_iff] at hq
      -- a bad entity contributes a message, all of whose messages carry its key
      cases hg : g x with
      | nil => exact absurd (hc x (by simp) hg) hq.2
      | cons m ms =>
        have : m.id = s := (hid x (by simp) m (by simp [hg])).trans hq.1
        simp [this]; omega
    next => omega

theorem report_complete (hc : ∀ e ∈ l, g e = [] → B e = []) :
    ∀ e ∈ l, B e ≠ [] → ∃ m ∈ l.flatMap g, m.id = key e := by
  intro e he hb
  cases hg : g e with
  | nil => exact absurd (hc e he hg) hb
  | cons m ms => exact ⟨m, List.mem_flatMap.2 ⟨e, he, by simp [hg]⟩, hid e he m (by simp [hg])⟩
end report

end Nix.C19
