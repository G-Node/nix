import NixModel.Proofs.DimDescLemmas
/-
  The refinement `step_refines`.  A call on a writable array is `Judged`: refused exactly when `illegal` says so, and otherwise
  with the effect `Shadow.apply` prescribes.  Every call ends in an error or in one of three outcomes — `createGroup` with the
  next index (`judged_append`), a rewritten group (`judged_setDesc`), a changed array field (`judged_field`) — and the setters
  all go through `withDim` (`judged_withDim`); `step_judged` is the table of the calls, where what is left per call is to
  evaluate `illegal` on its arguments.
-/
namespace Nix.C13
open Nix Nix.DimDesc
variable {α : Type}

theorem createGroup_next {a : Arr α} (h : GapFree a) (d : Desc α) :
    a.createGroup (a.count + 1) d = .ok { a with dims := a.dims ++ [⟨a.count + 1, d⟩] } := by
  unfold Arr.createGroup
  have hf : a.dims.filter (fun g => g.name ≠ a.count + 1) = a.dims := by
    rw [List.filter_eq_self]
    intro g hg
    have := name_lt_of_range' h hg
    exact decide_eq_true (by unfold Arr.count; omega)
  rw [if_neg (by omega), hf]

theorem gapfree_append {a : Arr α} (h : GapFree a) (d : Desc α) :
    GapFree { a with dims := a.dims ++ [⟨a.count + 1, d⟩] } := by
  unfold GapFree Arr.names Arr.count at *
  simp only [List.map_append, List.map_cons, List.map_nil, List.length_append, List.length_cons, List.length_nil]
  rw [h, List.range'_1_concat]
  congr 1; simp; omega

theorem get_toShadow {a : Arr α} (h : GapFree a) (i : Nat) : (toShadow a).get i = (a.lookup i).map (·.d) := by
  rw [lookup_gapfree h]
  cases i <;> simp [Shadow.get, toShadow]

theorem gapfree_of_names {a a' : Arr α} (h : GapFree a) (hn : a'.names = a.names) : GapFree a' := by
  unfold GapFree at *
  rw [count_eq_length_names, hn, ← count_eq_length_names]; exact h

theorem toShadow_setDesc {a : Arr α} (h : GapFree a) (i : Nat) (f : Desc α → Desc α) :
    toShadow (setDesc a i f) = { toShadow a with dims := modifyAt i f (toShadow a).dims } := by
  unfold toShadow setDesc modifyAt
  simp only [updName_range' i f a.dims 1 h]
  cases i <;> simp

/-- `Shadow.apply` states `setInterval` / `setOffset` with a function that matches on the body once more; on the descriptor found
    at `i` it does what the model's does -/
theorem modifyAt_congr {s : Shadow α} {i : Nat} {d : Desc α} (f f' : Desc α → Desc α) (hget : s.get i = some d) (hf : f d = f' d) :
    modifyAt i f s.dims = modifyAt i f' s.dims := by
  unfold Shadow.get at hget
  unfold modifyAt
  split
  · rfl
  · rw [if_neg ‹_›] at hget
    obtain ⟨hn, rfl⟩ := List.getElem?_eq_some_iff.1 hget
    rw [List.modify_eq_take_cons_drop hn, List.modify_eq_take_cons_drop hn, hf]

theorem soleAlias_toShadow {a : Arr α} (h : GapFree a) : soleAlias a = soleAliasS (toShadow a).dims := by
  unfold soleAlias soleAliasS
  rw [lookup_gapfree h]
  unfold toShadow Arr.count
  match hd : a.dims with
  | [] => simp
  | [g] => simp [isAlias]; cases g.d.body <;> simp
  | _ :: _ :: _ => simp

variable [Scalar α]

set_option linter.unusedSectionVars false in
theorem toShadow_append (a : Arr α) (d : Desc α) :
    toShadow { a with dims := a.dims ++ [⟨a.count + 1, d⟩] } = { toShadow a with dims := (toShadow a).dims ++ [d] } := by
  simp [toShadow]

def Refines (env : Env α) (a : Arr α) (op : Op α) : Prop :=
  match step env a op with
  | .ok (a', _) => accepts env (toShadow a) op = true ∧ toShadow a' = (toShadow a).apply env op ∧ GapFree a'
  | .error _ => accepts env (toShadow a) op = false

def Judged (env : Env α) (a : Arr α) (op : Op α) : Except Err (Arr α) → Prop
  | .ok a' => illegal env (toShadow a) op = false ∧ toShadow a' = (toShadow a).apply env op ∧ GapFree a'
  | .error _ => illegal env (toShadow a) op = true

theorem apply_append (env : Env α) (s : Shadow α) (op : Op α) (d : Desc α) (h : appendedDesc env op = some d) :
    s.apply env op = { s with dims := s.dims ++ [d] } := by
  cases op <;> first | cases h; rfl | cases h

theorem judged_append (env : Env α) {a : Arr α} (h : GapFree a) {op : Op α} {d : Desc α} (hd : appendedDesc env op = some d)
    (hill : illegal env (toShadow a) op = false) : Judged env a op (a.createGroup (a.count + 1) d) := by
  rw [createGroup_next h]
  exact ⟨hill, by rw [toShadow_append, apply_append env _ op d hd], gapfree_append h d⟩

theorem judged_field (env : Env α) {a a' : Arr α} (h : GapFree a) {op : Op α} (hd : a'.dims = a.dims)
    (hill : illegal env (toShadow a) op = false) (happ : toShadow a' = (toShadow a).apply env op) : Judged env a op (.ok a') :=
  ⟨hill, happ, gapfree_of_names h (congrArg (List.map _) hd)⟩

theorem judged_setDesc (env : Env α) {a : Arr α} (h : GapFree a) {op : Op α} {i : Nat} {f : Desc α → Desc α}
    (hill : illegal env (toShadow a) op = false)
    (happ : (toShadow a).apply env op = { toShadow a with dims := modifyAt i f (toShadow a).dims }) :
    Judged env a op (.ok (setDesc a i f)) :=
  ⟨hill, by rw [toShadow_setDesc h, happ], gapfree_of_names h (updName_names i f a.dims)⟩

theorem judged_withDim (env : Env α) {a : Arr α} (h : GapFree a) {op : Op α} {i : Nat} {k : Grp α → Except Err (Arr α)}
    (hnone : (toShadow a).get i = none → illegal env (toShadow a) op = true)
    (hsome : ∀ g, (toShadow a).get i = some g.d → Judged env a op (k g)) : Judged env a op (withDim a i k) := by
  have hg := get_toShadow h i
  unfold withDim
  cases hl : a.lookup i with
  | none => rw [hl] at hg; exact hnone hg
  | some g => rw [hl] at hg; exact hsome g hg

theorem step_judged (env : Env α) {a : Arr α} (h : GapFree a) (hro : a.ro = false) (op : Op α) :
    ∃ r n, step env a op = r.map (·, n) ∧ Judged env a op r := by
  have hd : deleteLoop a.count a.dims = [] := deleteLoop_gapfree h
  -- on a writable array `step` is `r.map (·, n)` with `r` the call's own function; `deleteDims` and `reopen` it spells out
  cases op <;> first
    | refine ⟨_, _, by simp only [step, hro]; rfl, ?_⟩
    | refine ⟨.ok { a with dims := [] }, 0, by simp only [step, hro, hd]; rfl, ?_⟩
    | exact ⟨.ok _, 0, rfl, judged_field env h rfl rfl rfl⟩
  case appendSet l => exact judged_append env h rfl rfl
  case appendRange t l u =>
    unfold appendRange
    by_cases h1 : t.isEmpty = true
    · simp [Judged, illegal, h1]
    by_cases h2 : ascending t = true
    · by_cases h3 : (!u.isEmpty && !env.isSI u) = true
      · simp [Judged, illegal, h1, h2, h3]
      · simp only [h1, h2, h3]; exact judged_append env h rfl (by simp [illegal, h1, h2, h3])
    · simp [Judged, illegal, h1, h2]
  case appendSampled si l u o =>
    unfold appendSampled
    by_cases h2 : positive si = true
    · by_cases h3 : (!u.isEmpty && !env.isSI u) = true
      · simp [Judged, illegal, h2, h3]
      · simp only [h2, h3]; exact judged_append env h rfl (by simp [illegal, h2, h3])
    · simp [Judged, illegal, h2]
  case appendAlias =>
    unfold appendAlias
    by_cases h1 : a.rank > 1
    · simp [Judged, illegal, toShadow, h1]
    by_cases h2 : a.numeric = true
    · by_cases h3 : a.count > 0
      · have : a.dims ≠ [] := by intro e; simp [Arr.count, e] at h3
        simp [Judged, illegal, toShadow, h1, h2, h3, this]
      · have h0 : a.count = 0 := by omega
        have hd : a.dims = [] := List.eq_nil_of_length_eq_zero h0
        have hc := judged_append env h (op := .appendAlias) rfl
        rw [h0] at hc
        simp only [h1, h2, h3]
        cases hu : a.unit with
        | none => exact hc (by simp [illegal, toShadow, h1, h2, hd, hu])
        | some u =>
          by_cases h4 : (env.isSI u || env.isCompound u) = true
          · simp only [h4]; exact hc (by simp [illegal, toShadow, h1, h2, hd, hu, h4])
          · simp [Judged, illegal, toShadow, hu, h4]
    · simp [Judged, illegal, toShadow, h1, h2]
  case appendFrame f c =>
    unfold appendFrame
    cases f with
    | own =>
      cases c with
      | idx i =>
        by_cases hi : i ≥ env.cols.length
        · simp [Judged, illegal, hi]
        · simp only [hi, reduceCtorEq, if_false]
          exact judged_append env h (by simp [appendedDesc, resolveCol]) (by simp [illegal]; omega)
      | name n =>
        simp only [reduceCtorEq, if_false]
        cases hc : colIndex n env.cols with
        | none => simp [Judged, illegal, hc]
        | some i => exact judged_append env h (by simp [appendedDesc, resolveCol, hc]) (by simp [illegal, hc])
      | whole => simp only [reduceCtorEq, if_false]; exact judged_append env h rfl rfl
    | foreign =>
      cases c with
      | idx _ | name _ => simp only [reduceCtorEq, if_false, if_true]; split <;> simp [Judged, illegal]
      | whole => simp [Judged, illegal]
    | uninit => cases c <;> simp [Judged, illegal]
  case deleteDims =>
    exact ⟨rfl, rfl, by simp [GapFree, Arr.names, Arr.count]⟩
  case setLabel i v =>
    refine judged_withDim env h (fun hg => by simp [illegal, hg]) fun g hg => ?_
    rcases v with _ | s
    · cases hb : g.d.body with
      | frame c => simp [Judged, illegal, hg, hb]
      | alias => exact judged_field env h rfl (by simp [illegal, hg, hb]) (by simp only [Shadow.apply, hg, isAlias, hb]; rfl)
      | _ => exact judged_setDesc env h (by simp [illegal, hg, hb]) (by simp [Shadow.apply, hg, isAlias, hb])
    · by_cases hs : s = ""
      · cases hb : g.d.body <;> simp [Judged, illegal, hg, hb, hs]
      · simp only [String.isEmpty_iff, hs, if_false]
        cases hb : g.d.body with
        | frame c => simp [Judged, illegal, hg, hb]
        | alias =>
          exact judged_field env h rfl (by simp [illegal, hg, hb, hs]) (by simp only [Shadow.apply, hg, isAlias, hb]; rfl)
        | _ => exact judged_setDesc env h (by simp [illegal, hg, hb, hs]) (by simp [Shadow.apply, hg, isAlias, hb])
  case setUnit i v =>
    refine judged_withDim env h (fun hg => by simp [illegal, hg]) fun g hg => ?_
    rcases v with _ | s
    · cases hb : g.d.body with
      | frame c => simp [Judged, illegal, hg, hb]
      | set l => simp [Judged, illegal, hg, hb]
      | alias => exact judged_field env h rfl (by simp [illegal, hg, hb]) (by simp only [Shadow.apply, hg, isAlias, hb]; rfl)
      | _ => exact judged_setDesc env h (by simp [illegal, hg, hb]) (by simp [Shadow.apply, hg, isAlias, hb])
    · by_cases hs : s = ""
      · cases hb : g.d.body <;> simp [Judged, illegal, hg, hb, hs]
      · by_cases hu : env.isSI s = true
        · simp only [String.isEmpty_iff, hs, hu, Bool.not_true, Bool.false_eq_true, if_false]
          cases hb : g.d.body with
          | frame c => simp [Judged, illegal, hg, hb]
          | set l => simp [Judged, illegal, hg, hb]
          | alias =>
            exact judged_field env h rfl (by simp [illegal, hg, hb, hs, hu]) (by simp only [Shadow.apply, hg, isAlias, hb]; rfl)
          | _ => exact judged_setDesc env h (by simp [illegal, hg, hb, hs, hu]) (by simp [Shadow.apply, hg, isAlias, hb])
        · cases hb : g.d.body <;> simp [Judged, illegal, hg, hb, hs, hu]
  case setInterval i v =>
    refine judged_withDim env h (fun hg => by simp [illegal, hg]) fun g hg => ?_
    cases hb : g.d.body with
    | sampled si off =>
      by_cases hp : positive v = true
      · simp only [hp, Bool.not_true, Bool.false_eq_true, if_false]
        exact judged_setDesc env h (by simp [illegal, hg, hb, hp])
          (by simp only [Shadow.apply]; congr 1; exact modifyAt_congr _ _ hg (by simp [hb]))
      · simp [Judged, illegal, hg, hb, hp]
    | _ => simp [Judged, illegal, hg, hb]
  case setOffset i v =>
    refine judged_withDim env h (fun hg => by simp [illegal, hg]) fun g hg => ?_
    cases hb : g.d.body with
    | sampled si off =>
      exact judged_setDesc env h (by simp [illegal, hg, hb])
        (by simp only [Shadow.apply]; congr 1; exact modifyAt_congr _ _ hg (by simp [hb]))
    | _ => simp [Judged, illegal, hg, hb]
  case setLabels i v =>
    refine judged_withDim env h (fun hg => by simp [illegal, hg]) fun g hg => ?_
    cases hb : g.d.body with
    | set l => exact judged_setDesc env h (by simp [illegal, hg, hb]) rfl
    | _ => simp [Judged, illegal, hg, hb]
  case setTicks i v =>
    refine judged_withDim env h (fun hg => by simp [illegal, hg]) fun g hg => ?_
    by_cases hp : ascending v = true
    · simp only [hp, Bool.not_true, Bool.false_eq_true, if_false]
      cases hb : g.d.body with
      | range t => exact judged_setDesc env h (by simp [illegal, hg, hb, hp]) (by simp [Shadow.apply, hg, isAlias, hb])
      | alias =>
        exact judged_field env h rfl (by simp [illegal, hg, hb, hp]) (by simp only [Shadow.apply, hg, isAlias, hb]; rfl)
      | _ => simp [Judged, illegal, hg, hb]
    · cases hb : g.d.body <;> simp [Judged, illegal, hg, hb, hp]
  case arrLabel v =>
    rcases v with _ | s
    · exact judged_field env h rfl rfl rfl
    · by_cases hs : s = ""
      · simp [Judged, arrLabel, illegal, hs]
      · simp only [arrLabel, String.isEmpty_iff, hs, if_false]; exact judged_field env h rfl (by simp [illegal, hs]) rfl
  case arrUnit v =>
    rcases v with _ | s
    · exact judged_field env h rfl rfl rfl
    · simp only [arrUnit, soleAlias_toShadow h]
      cases hs : (deblank s).isEmpty
      · cases hu : soleAliasS (toShadow a).dims && !(env.isSI (deblank s) || env.isCompound (deblank s))
        · exact judged_field env h rfl (by simp only [illegal, hs, hu, Bool.or_false]) rfl
        · simp only [Bool.false_eq_true, if_false, if_true, Judged, illegal, hu, Bool.or_true]
      · simp [Judged, illegal, hs]
  case arrData v =>
    unfold arrData
    by_cases h1 : a.rank = 1
    · by_cases h2 : a.numeric = true
      · rw [if_neg (fun hn => hn h1), if_neg (by simp [h2])]
        exact judged_field env h rfl (by simp [illegal, toShadow, h1, h2]) rfl
      · simp [Judged, illegal, toShadow, h1, h2]
    · simp [Judged, illegal, toShadow, h1]
  case arrExtent sh =>
    unfold arrExtent
    by_cases h1 : sh.length = a.rank
    · have hill : illegal env (toShadow a) (.arrExtent sh) = false := by simp [illegal, toShadow, h1]
      rw [if_neg (by simpa using h1)]
      split
      · exact judged_field env h rfl hill rfl
      · exact judged_field env h rfl hill (by simp only [Shadow.apply])
    · simp [Judged, illegal, toShadow, h1]

/-- **refinement, one call**: the C++-ordered, name-keyed model accepts exactly the calls the specification accepts, an accepted
    call has exactly the specified effect on the descriptors seen by position, and the names stay 1..n -/
theorem step_refines (env : Env α) {a : Arr α} (h : GapFree a) (op : Op α) : Refines env a op := by
  unfold Refines
  cases hro : a.ro with
  | true =>
    cases op with
    | reopen r => exact ⟨rfl, rfl, h⟩
    | _ => simp [step, accepts, toShadow, hro]
  | false =>
    have hacc : accepts env (toShadow a) op = !illegal env (toShadow a) op := by
      cases op with
      | reopen r => rfl
      | _ => simp [accepts, toShadow, hro]
    obtain ⟨r, n, hs, hj⟩ := step_judged env h hro op
    rw [hs, hacc]
    cases r with
    | error e => rw [show illegal env (toShadow a) op = true from hj]; rfl
    | ok a' => exact ⟨by rw [hj.1]; rfl, hj.2⟩

end Nix.C13
