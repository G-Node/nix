import NixModel.Proofs.Roles
/-
  The recursive delete of sections / sources (`deleteNested`) is written with a fuel argument; the C++ recursion has none.
  In every state that satisfies the schema what is contained is younger than what contains it (`WT.mono`), so the recursion
  below a container `c` is at most `number of objects - c` deep: with at least that much fuel the result does not depend on the
  fuel (`deleteNested_fuel_indep`) — the model's fuel `fuelOf s` = number of objects + 1 is always enough
  (`deleteSection_fuel_adequate` …), i.e. the recursion of the C++ terminates on every reachable file and the model follows it to
  the end.
-/
namespace Nix.St
open Store

/-- the roles whose links all lead to entities of kind `k`: a container of `k`, and the two top groups -/
def EntHolder (r : Role) (k : Kind) : Prop := r = .cont k ∨ (r = .topMeta ∧ k = .S) ∨ (r = .topData ∧ k = .B)

theorem EntHolder.child {r : Role} {k : Kind} (h : EntHolder r k) (n : String) : childRole r n = some (.ent k) := by
  rcases h with h | ⟨h, hk⟩ | ⟨h, hk⟩ <;> subst h <;> (try subst hk) <;> rfl

theorem EntHolder.contains {r : Role} {k : Kind} (h : EntHolder r k) : contains r (.ent k) = true := by
  rcases h with h | ⟨h, _⟩ | ⟨h, _⟩ <;> subst h <;> rfl

theorem afterKids_fuel_indep {s : Store} {ρ : ObjId → Role} (h : WT s ρ) {cname : String} {k : Kind}
    (hck : childRole (.ent k) cname = some (.cont k)) {v : ObjId} (hρv : ρ v = .ent k) (f1 f2 : Nat)
    (hrec : ∀ s' vc kid, WT s' ρ → s'.objs.length = s.objs.length → ρ vc = .cont k → vc < s.objs.length → v < vc →
      deleteNested cname f1 s' vc kid = deleteNested cname f2 s' vc kid) :
    afterKids (deleteNested cname f1) s v cname = afterKids (deleteNested cname f2) s v cname := by
  unfold afterKids
  cases hvc : s.optGroup v cname with
  | none => rfl
  | some vc =>
    have hm := optGroup_mem hvc
    have ⟨hvcl, hρvc⟩ := h.role_of_link (r := .cont k) hm (by rw [hρv]; exact hck)
    -- the two loops stay together, in a store that is `s` with links removed: there `hrec` applies
    refine (List.foldl_rel (r := fun a b => a = b ∧ Unlinks (fun _ => True) s a) ⟨rfl, .refl s⟩ fun kid _ s' _ ⟨e, hs'⟩ => ?_).1
    rw [← e, ← hrec s' vc kid (h.unlinks hs') hs'.length hρvc hvcl (h.mono v _ hm (by rw [hρvc]; rfl))]
    exact ⟨rfl, hs'.trans ((deleteNested_unlinks_below cname f1 s' vc kid).imp fun _ _ => trivial)⟩

theorem deleteNested_fuel_indep {ρ : ObjId → Role} (cname : String) (k : Kind) (hck : childRole (.ent k) cname = some (.cont k)) :
    ∀ (f1 f2 : Nat) (s : Store), WT s ρ → ∀ (c : ObjId) (key : String), EntHolder (ρ c) k → c < s.objs.length →
      s.objs.length - c ≤ f1 → s.objs.length - c ≤ f2 → deleteNested cname f1 s c key = deleteNested cname f2 s c key := by
  intro f1
  induction f1 with
  | zero => intro f2 s _ c key _ hc h1 _; exfalso; unfold ObjId at *; omega
  | succ f1 ih =>
    intro f2 s h c key hE hc h1 h2
    cases f2 with
    | zero => exfalso; unfold ObjId at *; omega
    | succ f2 =>
      unfold deleteNested
      cases hf : s.findGroupByNameOrAttribute c "entity_id" key with
      | none => rfl
      | some v =>
        obtain ⟨m, hm⟩ := findGroup_mem hf
        have ⟨_, hρv⟩ := h.role_of_link (r := .ent k) hm (hE.child m)
        have hcv : c < v := h.mono c _ hm (by rw [hρv]; exact hE.contains)
        simp only
        -- c < v < vc, so the bound below `v`'s container `vc` is smaller than below `c`: `ih` applies
        rw [afterKids_fuel_indep h hck hρv f1 f2 fun s' vc kid w l hρvc hvcl hvvc =>
          ih f2 s' w vc kid (.inl hρvc) (by rw [l]; exact hvcl) (by rw [l]; unfold ObjId at *; omega) (by rw [l]; unfold ObjId at *; omega)]

/-- `s'` is any store of the size of `s`: the children loop of `deleteBlockSource` runs with `fuelOf s` in stores that are `s`
    with links removed -/
theorem deleteNested_fuelOf {s s' : Store} {ρ : ObjId → Role} (h : WT s' ρ) (hl : s'.objs.length = s.objs.length) {cname : String}
    {k : Kind} (hck : childRole (.ent k) cname = some (.cont k)) {c : ObjId} (hE : EntHolder (ρ c) k) (hc : c < s.objs.length)
    (key : String) (extra : Nat) :
    deleteNested cname (fuelOf s) s' c key = deleteNested cname (fuelOf s + extra) s' c key :=
  deleteNested_fuel_indep cname k hck _ _ s' h c key hE (hl ▸ hc) (by rw [hl]; unfold fuelOf; omega) (by rw [hl]; unfold fuelOf; omega)

/-- the fuel the model gives the recursion is enough in every state that satisfies the schema: any larger amount gives the same
    result -/
theorem deleteSection_fuel_adequate {s : Store} {ρ : ObjId → Role} (h : WT s ρ) (p : Option ObjId) (key : String)
    (hp : ∀ x, p = some x → ρ x = .ent .S) (extra : Nat) :
    deleteSection s p key =
      (match p with
       | none => deleteNested "sections" (fuelOf s + extra) s metadataGrp key
       | some p => match s.optGroup p "sections" with
         | some c => deleteNested "sections" (fuelOf s + extra) s c key
         | none => (s, false)) := by
  unfold deleteSection
  cases p with
  | none => exact deleteNested_fuelOf h rfl rfl (.inr (.inl ⟨h.r1, rfl⟩)) (Nat.lt_of_lt_of_le (by decide) h.len) key extra
  | some p =>
    simp only
    cases hc : s.optGroup p "sections" with
    | none => rfl
    | some c =>
      have ⟨hcl, hρc⟩ := h.role_of_link (r := .cont .S) (optGroup_mem hc) (by rw [hp p rfl]; rfl)
      exact deleteNested_fuelOf h rfl rfl (.inl hρc) hcl key extra

theorem deleteSubSource_fuel_adequate {s : Store} {ρ : ObjId → Role} (h : WT s ρ) (p : ObjId) (key : String)
    (hp : ρ p = .ent .O) (extra : Nat) :
    deleteSubSource s p key =
      (match s.optGroup p "sources" with
       | some c => deleteNested "sources" (fuelOf s + extra) s c key
       | none => (s, false)) := by
  unfold deleteSubSource
  cases hc : s.optGroup p "sources" with
  | none => rfl
  | some c =>
    have ⟨hcl, hρc⟩ := h.role_of_link (r := .cont .O) (optGroup_mem hc) (by rw [hp]; rfl)
    exact deleteNested_fuelOf h rfl rfl (.inl hρc) hcl key extra

theorem deleteBlockSource_fuel_adequate {s : Store} {ρ : ObjId → Role} (h : WT s ρ) (b : ObjId) (key : String)
    (hb : ρ b = .ent .B) (extra : Nat) :
    deleteBlockSource s b key =
      (match s.optGroup b "sources" with
       | none => (s, false)
       | some c =>
         match blkFindKey s b "O" key with
         | none => (s, false)
         | some v => (afterKids (deleteNested "sources" (fuelOf s + extra)) s v "sources").removeAllLinks c (nameOf s v)) := by
  unfold deleteBlockSource
  cases hc : s.optGroup b "sources" with
  | none => rfl
  | some c =>
    simp only
    cases hf : blkFindKey s b "O" key with
    | none => rfl
    | some v =>
      simp only
      rw [afterKids_fuel_indep h rfl (h.blkFindKey hb hf).2 (fuelOf s) (fuelOf s + extra) fun s' vc kid w l hρvc hvcl _ =>
        deleteNested_fuelOf w l rfl (.inl hρvc) hvcl kid extra]

end Nix.St
