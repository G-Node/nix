import NixModel.Proofs.DimDescRefine
/-
  Valid values and alias-only-in-front are invariants of the SPECIFICATION's bookkeeping (`keeps_apply`, `shadowRun_invariant`:
  no model state in sight); the model has them because it simulates the specification along every history (`run_simulates`,
  from `step_refines`).  `rel_observe`: in a state whose names are 1..n and whose values are valid the observation satisfies `Rel`.
-/
namespace Nix.C13
open Nix Nix.DimDesc
variable {α : Type} [Scalar α]

def ValidDesc (d : Desc α) : Prop :=
  match d.body with
  | .range t => ascending t = true
  | .sampled si _ => positive si = true
  | _ => True

def ValidS (l : List (Desc α)) : Prop := ∀ d ∈ l, ValidDesc d
def Valid (a : Arr α) : Prop := ∀ g ∈ a.dims, ValidDesc g.d

theorem valid_iff (a : Arr α) : Valid a ↔ ValidS (toShadow a).dims := by
  unfold Valid ValidS toShadow
  simp

def AliasFirstS (l : List (Desc α)) : Prop := ∀ k d, l[k]? = some d → isAlias d = true → k = 0

def Keeps (l l' : List (Desc α)) : Prop := (ValidS l → ValidS l') ∧ (AliasFirstS l → AliasFirstS l')

theorem keeps_append (l : List (Desc α)) (d : Desc α) (hv : ValidDesc d) (ha : isAlias d = false ∨ l = []) :
    Keeps l (l ++ [d]) := by
  refine ⟨fun h => List.forall_mem_append.2 ⟨h, List.forall_mem_singleton.2 hv⟩, fun h k x hk hx => ?_⟩
  rcases ha with ha | rfl
  · rw [List.getElem?_append] at hk
    split at hk
    · exact h k x hk hx
    · rw [List.mem_singleton.1 (List.mem_of_getElem? hk), ha] at hx; cases hx
  · simpa using (List.getElem?_eq_some_iff.1 hk).1

omit [Scalar α] in
theorem getElem?_modifyAt {l : List (Desc α)} {i k : Nat} {x : Desc α} (f : Desc α → Desc α)
    (h : (modifyAt i f l)[k]? = some x) : ∃ y, l[k]? = some y ∧ (x = y ∨ x = f y) := by
  unfold modifyAt at h
  split at h
  · exact ⟨x, h, .inl rfl⟩
  · rw [List.getElem?_modify] at h
    cases hl : l[k]? with
    | none => simp [hl] at h
    | some y =>
      rw [hl] at h
      split at h <;> simp at h <;> exact ⟨y, rfl, by simp [h]⟩

theorem keeps_modifyAt (l : List (Desc α)) (i : Nat) (f : Desc α → Desc α)
    (hf : ∀ d, ValidDesc d → ValidDesc (f d)) (hf' : ∀ d, isAlias (f d) = true → isAlias d = true) : Keeps l (modifyAt i f l) := by
  refine ⟨fun h x hx => ?_, fun h k x hk hx => ?_⟩
  · obtain ⟨k, hk⟩ := List.getElem?_of_mem hx
    obtain ⟨y, hy, rfl | rfl⟩ := getElem?_modifyAt f hk
    · exact h _ (List.mem_of_getElem? hy)
    · exact hf y (h y (List.mem_of_getElem? hy))
  · obtain ⟨y, hy, rfl | rfl⟩ := getElem?_modifyAt f hk
    · exact h k _ hy hx
    · exact h k y hy (hf' y hx)

theorem keeps_apply (env : Env α) (s : Shadow α) (op : Op α) (hl : illegal env s op = false) :
    Keeps s.dims (s.apply env op).dims := by
  have same : Keeps s.dims s.dims := ⟨id, id⟩
  -- the field setters that an alias redirects to the array
  have redirected : ∀ (i : Nat) (f : Desc α → Desc α) (t t' : Shadow α), t.dims = s.dims → t'.dims = modifyAt i f s.dims →
      (∀ d, ValidDesc d → ValidDesc (f d)) → (∀ d, isAlias (f d) = true → isAlias d = true) →
      Keeps s.dims (match s.get i with | some d => if isAlias d then t else t' | none => s).dims := by
    intro i f t t' ht ht' hf hf'
    cases s.get i with
    | none => exact same
    | some d =>
      simp only []
      split
      · rw [ht]; exact same
      · rw [ht']; exact keeps_modifyAt _ i f hf hf'
  cases op with
  | appendSet _ | appendFrame _ _ => exact keeps_append _ _ trivial (.inl rfl)
  | appendRange t l u => simp [illegal] at hl; exact keeps_append _ _ hl.1.2 (.inl rfl)
  | appendSampled si l u o => simp [illegal] at hl; exact keeps_append _ _ hl.1 (.inl rfl)
  | appendAlias => simp [illegal] at hl; exact keeps_append _ _ trivial (.inr hl.1.2)
  | deleteDims => exact ⟨fun _ => nofun, fun _ k d hk => by simp [Shadow.apply] at hk⟩
  | setLabel i _ | setUnit i _ => exact redirected i _ _ _ rfl rfl (fun _ hd => hd) (fun _ hd => hd)
  | setTicks i v =>
    have hp : ascending v = true := by
      cases hg : s.get i <;> simp [illegal, hg] at hl
      exact hl.2
    exact redirected i _ _ _ rfl rfl (fun _ _ => hp) (fun _ hd => by cases hd)
  | setInterval i v =>
    have hp : positive v = true := by
      cases hg : s.get i <;> simp [illegal, hg] at hl
      exact hl.2
    exact keeps_modifyAt _ i _
      (fun d hd => by cases hb : d.body <;> simp [ValidDesc, hb] at hd ⊢ <;> first | exact hp | exact hd)
      (fun d hd => by cases hb : d.body <;> simp [isAlias, hb] at hd ⊢)
  | setOffset i v =>
    exact keeps_modifyAt _ i _
      (fun d hd => by cases hb : d.body <;> simp [ValidDesc, hb] at hd ⊢ <;> exact hd)
      (fun d hd => by cases hb : d.body <;> simp [isAlias, hb] at hd ⊢)
  | setLabels i v => exact keeps_modifyAt _ i _ (fun _ _ => trivial) (fun _ hd => by cases hd)
  | arrLabel _ | arrUnit _ | arrData _ | reopen _ => exact same
  | arrExtent sh => simp only [Shadow.apply]; split <;> exact same

omit [Scalar α] in
theorem view_eq_viewD (env : Env α) (a : Arr α) (g : Grp α) : view env a g = viewD env a.label a.unit a.data g.d := by
  unfold view viewD; cases g.d.body <;> rfl

omit [Scalar α] in
theorem getDimension_eq_expect (env : Env α) {a : Arr α} (h : GapFree a) (i : Nat) :
    getDimension env a i = (toShadow a).expect env i := by
  unfold getDimension Shadow.expect
  rw [get_toShadow h]
  cases a.lookup i with
  | none => rfl
  | some g => simp [view_eq_viewD, toShadow]

theorem filterMap_congr' {β γ : Type} {f g : β → Option γ} : ∀ (l : List β), (∀ x ∈ l, f x = g x) → l.filterMap f = l.filterMap g
  | [], _ => rfl
  | x :: rest, h => by
    rw [List.forall_mem_cons] at h
    simp only [List.filterMap_cons, h.1, filterMap_congr' rest h.2]

omit [Scalar α] in
theorem dimensionIndices_gapfree {a : Arr α} (h : GapFree a) : dimensionIndices a = List.range' 1 a.count := by
  unfold dimensionIndices
  have : ∀ i ∈ List.range a.count, ((a.lookup (i + 1)).map fun _ => i + 1) = some (i + 1) := by
    intro i hi
    rw [lookup_gapfree h]
    have hi : i < a.dims.length := by simpa [Arr.count] using hi
    simp [hi]
  rw [filterMap_congr' _ this, List.filterMap_eq_map', List.range'_eq_map_range]
  apply List.map_congr_left; intro i _; omega

section
variable [DecidableEq α]

theorem gets_ok (env : Env α) {a : Arr α} (hv : Valid a) (x : Option (Nat × View α))
    (hx : x ∈ (List.range (a.count + 2)).map (getDimension env a)) :
    ticksOk x = true ∧ intervalOk x = true ∧ aliasOk (observe env a) x = true := by
  simp only [List.mem_map] at hx
  obtain ⟨i, _, rfl⟩ := hx
  unfold getDimension
  cases hl : a.lookup i with
  | none => simp [ticksOk, intervalOk, aliasOk]
  | some g =>
    have hg := hv g (findName_name hl).2
    unfold ValidDesc at hg
    cases hb : g.d.body <;> simp [hb] at hg <;> simp [view, hb, ticksOk, intervalOk, aliasOk, observe, hg]

theorem rel_observe (env : Env α) {a : Arr α} (h : GapFree a) (hv : Valid a) : Rel env (toShadow a) (observe env a) = true := by
  have hn : (toShadow a).dims.length = a.count := by simp [toShadow, Arr.count]
  have hgets : (observe env a).gets = (List.range ((toShadow a).dims.length + 2)).map ((toShadow a).expect env) := by
    simp only [observe, hn]
    apply List.map_congr_left; intro i _; exact getDimension_eq_expect env h i
  have hok := gets_ok env hv
  unfold Rel rules
  simp only [List.all_cons, List.all_nil, Bool.and_true, Bool.and_eq_true, decide_eq_true_eq, List.all_eq_true]
  refine ⟨by simp [observe, hn], by simp [observe, hn, dimensionIndices_gapfree h], ?_, hgets,
    fun x hx => (hok x hx).1, fun x hx => (hok x hx).2.1, fun x hx => (hok x hx).2.2, by simp [observe, toShadow]⟩
  rw [hgets]
  simp [Shadow.expect, Shadow.get]

end

/-- the guard of `Shadow.next`, `s.ro || !accepted`, with `accepted = !s.ro && !illegal` put in -/
theorem ite_gate {β : Type} (r i : Bool) (x y : β) :
    (if (r || !(!r && !i)) = true then x else y) = if (!r && !i) = true then y else x := by
  cases r <;> cases i <;> rfl

theorem next_eq (env : Env α) (s : Shadow α) (op : Op α) :
    s.next env op (accepts env s op) = if accepts env s op then s.apply env op else s := by
  cases op <;> first | rfl | exact ite_gate _ _ _ _

theorem shadowRun_invariant (env : Env α) (P : List (Desc α) → Prop)
    (hP : ∀ (s : Shadow α) (op : Op α), P s.dims → illegal env s op = false → P (s.apply env op).dims) :
    ∀ (ops : List (Op α)) (s : Shadow α), P s.dims → P (shadowRun env s ops).dims
  | [], _, hp => hp
  | op :: rest, s, hp => by
    refine shadowRun_invariant env P hP rest _ ?_
    show P (s.next env op (accepts env s op)).dims
    rw [next_eq]
    split
    · rename_i hacc
      cases op with
      | reopen r => exact hp
      | _ => exact hP _ _ hp (by simp [accepts] at hacc; exact hacc.2)
    · exact hp

theorem run_simulates (env : Env α) : ∀ (ops : List (Op α)) (a : Arr α), GapFree a →
    GapFree (run env a ops) ∧ toShadow (run env a ops) = shadowRun env (toShadow a) ops
  | [], a, h => ⟨h, rfl⟩
  | op :: rest, a, h => by
    have hr := step_refines env h op
    unfold Refines at hr
    have key : GapFree (next env a op) ∧
        toShadow (next env a op) = (toShadow a).next env op (accepts env (toShadow a) op) := by
      rw [next_eq]
      unfold next
      cases hs : step env a op with
      | error e => rw [hs] at hr; simp [hr]; exact h
      | ok r => rw [hs] at hr; simp only [hr.1, if_true]; exact ⟨hr.2.2, hr.2.1⟩
    have ih := run_simulates env rest (next env a op) key.1
    exact ⟨ih.1, ih.2.trans (by rw [key.2]; rfl)⟩

theorem run_invariant (env : Env α) (ops : List (Op α)) (a : Arr α) (h : GapFree a) (hv : Valid a) :
    GapFree (run env a ops) ∧ Valid (run env a ops) ∧ toShadow (run env a ops) = shadowRun env (toShadow a) ops := by
  have hs := run_simulates env ops a h
  refine ⟨hs.1, ?_, hs.2⟩
  rw [valid_iff, hs.2]
  exact shadowRun_invariant env ValidS (fun s op hp hl => (keeps_apply env s op hl).1 hp) ops _ ((valid_iff a).1 hv)

end Nix.C13
